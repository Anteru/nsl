import Nsl.Model.Map
import Nsl.Model.Val
import Nsl.Model.IR
import Nsl.Model.VM
import Nsl.Model.SrcMap
import Nsl.Model.Prec
import Nsl.Model.Types
import Nsl.Proofs.SrcMap
import Nsl.Proofs.Prec
import Nsl.Proofs.Types
import Nsl.Props.C08
import Nsl.Props.C09
import Nsl.Props.C20
import Nsl.Model.Leb
import Nsl.Proofs.Leb
import Nsl.Props.C19
import Nsl.Model.Overload
import Nsl.Proofs.Overload
import Nsl.Props.C10
import Nsl.Model.OverloadAgg
import Nsl.Proofs.OverloadAgg
import Nsl.Props.C10Agg
import Nsl.Model.Core
import Nsl.Model.Lower
import Nsl.Model.CoreSem
import Nsl.Model.Flow
import Nsl.Proofs.CoreSemEq
import Nsl.Proofs.Flow
import Nsl.Props.C11
import Nsl.Driver.Sexp
import Nsl.Driver.Codec
import Nsl.Model.WF
import Nsl.Proofs.WF
import Nsl.Props.C14
import Nsl.Model.Static
import Nsl.Proofs.Static
import Nsl.Props.C13
import Nsl.Gen.Grammar
import Nsl.Gen.OpMaps
import Nsl.Gen.Flags
import Nsl.Gen.LocIdx
import Nsl.Props.GenC08
import Nsl.Props.GenC09
import Nsl.Props.GenC20
import Nsl.Props.GenMisc
import Nsl.Model.Names
import Nsl.Proofs.Names
import Nsl.Proofs.NamesBinding
import Nsl.Proofs.NamesStatic
import Nsl.Props.C12
import Nsl.Model.ScalarCore
import Nsl.Proofs.VMSteps
import Nsl.Proofs.StepLemmas
import Nsl.Proofs.LowerRules
import Nsl.Proofs.LowerCode
import Nsl.Proofs.LowerLocal
import Nsl.Proofs.LowerAcc
import Nsl.Proofs.LowerAccStorage
import Nsl.Proofs.LowerShape
import Nsl.Proofs.SimBase
import Nsl.Proofs.SimRun
import Nsl.Proofs.SimStmt
import Nsl.Proofs.SimMain
import Nsl.Props.C01
import Nsl.Props.C03
import Nsl.Props.C15
import Nsl.Model.Opt
import Nsl.Proofs.Opt
import Nsl.Props.C02
import Nsl.Model.Link
import Nsl.Proofs.Link
import Nsl.Props.C16
import Nsl.Proofs.ExceptList
import Nsl.Proofs.ListVals
import Nsl.Props.C04
import Nsl.Props.C17
import Nsl.Props.C18
import Nsl.Props.C05
import Nsl.Model.Wasm
import Nsl.Model.WasmEval
import Nsl.Proofs.Wasm
import Nsl.Proofs.WasmGen
import Nsl.Proofs.WasmEval
import Nsl.Props.C07
import Nsl.Props.C06
import Nsl.Model.WasmRange
import Nsl.Proofs.WasmInt
import Nsl.Proofs.OptSimBase
import Nsl.Proofs.OptSimKept
import Nsl.Proofs.InstrViews
import Nsl.Proofs.OptSimRun
import Nsl.Proofs.OptSimPres
import Nsl.Proofs.OptSimPasses
import Nsl.Proofs.OptSimConv
import Nsl.Model.StorageCore
import Nsl.Proofs.StorBase
import Nsl.Proofs.StorEval
import Nsl.Proofs.StorExpr
import Nsl.Proofs.StorMain
import Nsl.Proofs.StorPlace
import Nsl.Proofs.StorShape
import Nsl.Proofs.StorStmt
import Nsl.Proofs.WFBlock
import Nsl.Proofs.WFOpt
import Nsl.Props.C01Storage
import Nsl.Props.C14Opt
import Nsl.Props.LowerOK
import Nsl.Proofs.WasmUInt
import Nsl.Model.IRType
import Nsl.Proofs.ScalarOps
import Nsl.Proofs.IRTypeBase
import Nsl.Proofs.IRTypeOps
import Nsl.Proofs.IRTypeOps2
import Nsl.Proofs.IRTypeInv
import Nsl.Proofs.IRTypeStep1
import Nsl.Proofs.IRTypeStep2
import Nsl.Proofs.IRTypeRun
import Nsl.Props.C05IR
import Nsl.Props.LowerOKStorage
import Nsl.Proofs.LowerWF
import Nsl.Proofs.LowerCores
import Nsl.Props.LowerWF
import Nsl.Model.VectorCore
import Nsl.Proofs.VecBase
import Nsl.Proofs.VecBin
import Nsl.Proofs.VecEval
import Nsl.Proofs.VecExpr
import Nsl.Proofs.VecMain
import Nsl.Proofs.VecOps
import Nsl.Proofs.VecRows
import Nsl.Proofs.VecShape
import Nsl.Proofs.VecStore
import Nsl.Proofs.VecVals
import Nsl.Props.C04Sim
import Nsl.Props.LowerOKVector
