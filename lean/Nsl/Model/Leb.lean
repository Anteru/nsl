/-
Model of the integer / name / section framing layer of the WebAssembly writer
(`/repo/nsl/WebAssembly.py`: `PackInteger`, `WriteInteger`, `WriteString`, and the
`WriteByte(id); WriteInteger(len(content)); write(content)` framing).

Bytes are represented as `Nat`; the property file proves every emitted byte is `< 256`.
Executable definitions only, core `Init` only.
-/
namespace Nsl.Leb

/-! ### `int.bit_length` -/

/-- Fuelled helper for `bitLength` (number of halvings until zero). -/
def bitLengthAux : Nat → Nat → Nat
  | 0, _ => 0
  | fuel + 1, n => if n = 0 then 0 else bitLengthAux fuel (n / 2) + 1

/-- Python `int.bit_length` of a non-negative integer (for a negative `v` Python uses `|v|`). -/
def bitLength (n : Nat) : Nat := bitLengthAux n n

/-! ### `PackInteger` — literal mirror of the Python loop -/

/-- The `for i in range(blockCount)` loop, indexed by the number of *remaining* iterations.
`v & 0x7F` on a Python int is `v mod 128` (non-negative, two's complement view);
`v >>= 7` is floor division by 128. `(i + 1) < blockCount` holds iff another iteration follows. -/
def packLoop : Nat → Int → List Nat
  | 0, _ => []
  | k + 1, v =>
    let b := (v % 128).toNat
    let v' := v / 128
    (if k = 0 then b else b + 128) :: packLoop k v'

/-- `PackInteger(v)`; `blockCount = ceil(bit_length(|v|) / 7)`. -/
def packInteger (v : Int) : List Nat :=
  if v = 0 then [0] else packLoop ((bitLength v.natAbs + 6) / 7) v

/-! ### Standard unsigned LEB128 -/

/-- Fuelled helper for `encU`. -/
def encUAux : Nat → Nat → List Nat
  | 0, n => [n % 128]
  | fuel + 1, n => if n < 128 then [n] else (n % 128 + 128) :: encUAux fuel (n / 128)

/-- Standard unsigned LEB128 encoder (emit low 7 bits, continue while the rest is non-zero).
Fuel `n` always suffices because `n / 128 < n` for `n ≥ 128`. -/
def encU (n : Nat) : List Nat := encUAux n n

/-- Accumulating loop of the standard unsigned decoder:
`result |= (byte & 0x7f) << shift; shift += 7; stop when (byte & 0x80) == 0`. -/
def decULoop (acc shift : Nat) : List Nat → Option (Nat × List Nat)
  | [] => none
  | b :: bs =>
    let acc' := acc + (b % 128) * 2 ^ shift
    if b < 128 then some (acc', bs) else decULoop acc' (shift + 7) bs

/-- Standard unsigned LEB128 decoder; returns the value and the unread rest. -/
def decU (bs : List Nat) : Option (Nat × List Nat) := decULoop 0 0 bs

/-! ### Standard signed LEB128 -/

/-- Fuelled helper for `encS`; mirrors `PackSignedInteger`. -/
def encSAux : Nat → Int → List Nat
  | 0, v => [(v % 128).toNat]
  | fuel + 1, v =>
    let b := (v % 128).toNat
    let v' := v / 128
    if (v' = 0 ∧ b < 64) ∨ (v' = -1 ∧ b ≥ 64) then [b] else (b + 128) :: encSAux fuel v'

/-- Standard signed LEB128 encoder. Fuel `|v| + 1` always suffices. -/
def encS (v : Int) : List Nat := encSAux (v.natAbs + 1) v

/-- Accumulating loop of the standard signed decoder:
`result |= (byte & 0x7f) << shift; shift += 7;` on the last byte, if bit 6 is set,
sign-extend: `result |= (~0 << shift)`, i.e. subtract `2^shift`. -/
def decSLoop (acc : Int) (shift : Nat) : List Nat → Option (Int × List Nat)
  | [] => none
  | b :: bs =>
    let acc' := acc + ((b % 128 : Nat) : Int) * 2 ^ shift
    let shift' := shift + 7
    if b < 128 then
      (if b % 128 ≥ 64 then some (acc' - 2 ^ shift', bs) else some (acc', bs))
    else decSLoop acc' shift' bs

/-- Standard signed LEB128 decoder; returns the value and the unread rest. -/
def decS (bs : List Nat) : Option (Int × List Nat) := decSLoop 0 0 bs

/-- Executable test: is `PackInteger(v)` byte-for-byte the signed LEB128 encoding of `v`?
(Proved equivalent to `packInteger v = encS v`: `packIsSigned_spec` in `Nsl.Props.C19`.) -/
def packIsSigned (v : Int) : Bool :=
  v == 0 || bitLength v.natAbs % 7 != 0 ||
    (decide (v < 0) && decide (bitLength (v.natAbs - 1) < bitLength v.natAbs))

/-! ### Framing -/

/-- `WriteInteger(len(payload)); write(payload)` with the standard unsigned size field. -/
def frame (payload : List Nat) : List Nat := encU payload.length ++ payload

/-- The same framing exactly as the Python writes it (through `PackInteger`). -/
def framePy (payload : List Nat) : List Nat := packInteger (payload.length : Int) ++ payload

/-- Reader for a frame: decode the size, then take exactly that many bytes. -/
def unframe (bs : List Nat) : Option (List Nat × List Nat) :=
  match decU bs with
  | none => none
  | some (n, r) => if n ≤ r.length then some (r.take n, r.drop n) else none

/-- `WriteByte(id); WriteInteger(len(content)); write(content)`.
(`section` is a Lean keyword, hence the name.) -/
def sectionBytes (id : Nat) (payload : List Nat) : List Nat := id :: frame payload

/-- Same, exactly as the Python writes it. -/
def sectionBytesPy (id : Nat) (payload : List Nat) : List Nat := id :: framePy payload

/-- Reader for a section: id byte, then a frame. -/
def unsection (bs : List Nat) : Option (Nat × List Nat × List Nat) :=
  match bs with
  | [] => none
  | id :: r =>
    match unframe r with
    | none => none
    | some (p, rest) => some (id, p, rest)

/-- UTF-8 bytes of a string (`PackString`). -/
def utf8 (s : String) : List Nat := s.toUTF8.data.toList.map UInt8.toNat

/-- `WriteString`: length-prefixed UTF-8. -/
def writeString (s : String) : List Nat := frame (utf8 s)

/-- `WriteString` exactly as the Python writes it. -/
def writeStringPy (s : String) : List Nat := framePy (utf8 s)

/-! ### Hex dump for the driver -/

def hexDigit (n : Nat) : Char :=
  if n < 10 then Char.ofNat (48 + n) else Char.ofNat (87 + n)

/-- Two lowercase hex digits per byte, no separators. -/
def hex (bs : List Nat) : String :=
  String.ofList (bs.flatMap fun b => [hexDigit (b / 16 % 16), hexDigit (b % 16)])

end Nsl.Leb
