/-!
# Association-list maps

`Map κ ν` is what the model uses for every Python `dict` (`localScope`, the global scope, struct
instances).  `set` replaces an existing binding in place (keeps the list bounded by the number of
keys) and appends otherwise, so iteration order is insertion order like a Python dict.
-/
namespace Nsl

abbrev Map (κ ν : Type) := List (κ × ν)

namespace Map
variable {κ ν : Type} [DecidableEq κ]

def get (m : Map κ ν) (k : κ) : Option ν :=
  match m with
  | [] => none
  | (k', v) :: rest => if k' = k then some v else get rest k

def set (m : Map κ ν) (k : κ) (v : ν) : Map κ ν :=
  match m with
  | [] => [(k, v)]
  | (k', v') :: rest => if k' = k then (k', v) :: rest else (k', v') :: set rest k v

def contains (m : Map κ ν) (k : κ) : Bool := (get m k).isSome

def keys (m : Map κ ν) : List κ := m.map (·.1)

@[simp] theorem get_nil (k : κ) : get ([] : Map κ ν) k = none := rfl

@[simp] theorem get_set_eq (m : Map κ ν) (k : κ) (v : ν) : get (set m k v) k = some v := by
  induction m with
  | nil => simp [set, get]
  | cons p rest ih =>
    obtain ⟨k', v'⟩ := p
    by_cases h : k' = k
    · simp [set, get, h]
    · simp [set, get, h, ih]

theorem get_set_ne (m : Map κ ν) (k k₂ : κ) (v : ν) (h : k ≠ k₂) :
    get (set m k v) k₂ = get m k₂ := by
  induction m with
  | nil => simp [set, get, h]
  | cons p rest ih =>
    obtain ⟨k', v'⟩ := p
    by_cases h1 : k' = k
    · subst h1; simp [set, get, h]
    · by_cases h2 : k' = k₂
      · subst h2; simp [set, get, h1]
      · simp [set, get, h1, h2, ih]

theorem mem_of_get {m : Map κ ν} {k : κ} {v : ν} (h : get m k = some v) : (k, v) ∈ m := by
  induction m with
  | nil => cases h
  | cons p rest ih =>
    rw [get] at h
    split at h
    · cases h; subst k; exact List.mem_cons_self
    · exact List.mem_cons_of_mem _ (ih h)

end Map
end Nsl
