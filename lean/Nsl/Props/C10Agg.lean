import Nsl.Model.OverloadAgg
import Nsl.Proofs.OverloadAgg
import Nsl.Props.C10

/-!
# C10 — overload resolution over the full type universe (arrays, structures, optional parameters)

"A declaration is a candidate iff it has that name, the call passes at most as many arguments as
it has parameters, every parameter beyond the passed arguments is optional, and every argument is
convertible (`IsCompatible`) to the corresponding parameter.  Its cost is the number of positions
(among the passed arguments) at which argument and parameter types differ.  The call resolves to
the candidate of strictly least cost; no candidate → noMatch; least cost shared → ambiguous; no
declaration of that name in any scope of the chain → unknown; the innermost scope that declares
the name decides."

`findInScopeA` / `findFunctionA` mirror the Python `Scope.FindFunction` / `Function.Match` /
`Match` / `IsCompatible`; `SpecA.best` / `SpecA.resolve` are written from the text above.
-/

namespace Nsl.Overload
open Nsl.Types

/-- `none` (defer to the parent) exactly when no function of that name is registered. -/
theorem findInScopeA_eq_none_iff (sc : ScopeA) (name : String) (args : List ATy) :
    findInScopeA sc name args = none ↔ ∀ s ∈ sc, s.name ≠ name := by
  rw [findInScopeA_eq_rank]; exact Rank.findInScope_eq_none_iff sc name
#print axioms findInScopeA_eq_none_iff

theorem findInScopeA_some_eq_spec (sc : ScopeA) (name : String) (args : List ATy)
    (h : ∃ s ∈ sc, s.name = name) :
    findInScopeA sc name args = some (SpecA.best sc name args) := by
  rw [findInScopeA_eq_rank, SpecA.best_eq_rank]; exact Rank.findInScope_of_mem (lawsA args) h
#print axioms findInScopeA_some_eq_spec

theorem findFunctionA_eq_spec (chain : List ScopeA) (name : String) (args : List ATy) :
    findFunctionA chain name args = SpecA.resolve chain name args := by
  rw [findFunctionA_eq_rank, SpecA.resolve_eq_rank]
  exact Rank.findFunction_eq_resolve (lawsA args) chain name
#print axioms findFunctionA_eq_spec

theorem bestA_perm (sc₁ sc₂ : ScopeA) (h : sc₁.Perm sc₂) (name : String) (args : List ATy) :
    SpecA.best sc₁ name args = SpecA.best sc₂ name args := by
  rw [SpecA.best_eq_rank, SpecA.best_eq_rank]; exact Rank.best_perm h name
#print axioms bestA_perm

theorem findInScopeA_perm (sc₁ sc₂ : ScopeA) (h : sc₁.Perm sc₂) (name : String)
    (args : List ATy) :
    findInScopeA sc₁ name args = findInScopeA sc₂ name args := by
  rw [findInScopeA_eq_rank, findInScopeA_eq_rank]
  exact Rank.findInScope_perm (lawsA args) h name
#print axioms findInScopeA_perm

/-- Reordering the declarations inside every scope of the chain does not change the outcome. -/
theorem findFunctionA_perm (chain₁ chain₂ : List ScopeA) (hlen : chain₁.length = chain₂.length)
    (h : ∀ (k : Nat) (h₁ : k < chain₁.length) (h₂ : k < chain₂.length),
      (chain₁[k]'h₁).Perm (chain₂[k]'h₂))
    (name : String) (args : List ATy) :
    findFunctionA chain₁ name args = findFunctionA chain₂ name args := by
  rw [findFunctionA_eq_rank, findFunctionA_eq_rank]
  exact Rank.findFunction_perm (lawsA args) chain₁ chain₂ hlen h name
#print axioms findFunctionA_perm

theorem chosenA_viable (chain : List ScopeA) (name : String) (args : List ATy) (s : SigA)
    (h : findFunctionA chain name args = .ok s) :
    SpecA.viable s name args = true ∧ ∃ sc ∈ chain, s ∈ sc := by
  rw [findFunctionA_eq_rank] at h
  obtain ⟨pre, sc, post, rfl, -, hs, hv, -⟩ := (Rank.findFunction_eq_ok_iff (lawsA args)).mp h
  exact ⟨hv, sc, by simp, hs⟩
#print axioms chosenA_viable

/-- The answering scope is the innermost one that declares the name; the chosen function is
declared exactly once in it, and every other viable candidate of that scope needs strictly more
conversions. -/
theorem chosenA_minimal (chain : List ScopeA) (name : String) (args : List ATy) (s : SigA)
    (h : findFunctionA chain name args = .ok s) :
    ∃ pre sc post, chain = pre ++ sc :: post ∧
      (∀ sc' ∈ pre, ∀ t ∈ sc', t.name ≠ name) ∧
      s ∈ sc ∧ sc.count s = 1 ∧
      ∀ t ∈ sc, SpecA.viable t name args = true → t ≠ s →
        SpecA.cost s args < SpecA.cost t args := by
  rw [findFunctionA_eq_rank] at h
  obtain ⟨pre, sc, post, hch, hpre, hs, -, hmin⟩ :=
    (Rank.findFunction_eq_ok_iff (lawsA args)).mp h
  exact ⟨pre, sc, post, hch, hpre, hs, hmin⟩
#print axioms chosenA_minimal

theorem nonviableA_never_chosen (chain : List ScopeA) (name : String) (args : List ATy)
    (s : SigA) (i : Nat) (a : ATy) (p : ATy × Bool)
    (ha : args[i]? = some a) (hp : s.params[i]? = some p)
    (hc : isCompatibleA a p.1 = false) :
    findFunctionA chain name args ≠ .ok s := by
  intro h
  have hv := (chosenA_viable chain name args s h).1
  have := viableA_convertible hv ha hp
  rw [hc] at this; cases this
#print axioms nonviableA_never_chosen

theorem tooManyArgsA_never_chosen (chain : List ScopeA) (name : String) (args : List ATy)
    (s : SigA) (hl : s.params.length < args.length) :
    findFunctionA chain name args ≠ .ok s := by
  intro h
  have hv := (chosenA_viable chain name args s h).1
  exact Nat.not_le_of_lt hl (viableA_iff_forall.mp hv).2.1
#print axioms tooManyArgsA_never_chosen

/-- A function with a non-optional parameter beyond the passed arguments is never chosen. -/
theorem missingRequiredA_never_chosen (chain : List ScopeA) (name : String) (args : List ATy)
    (s : SigA) (i : Nat) (p : ATy × Bool) (hi : args.length ≤ i) (hp : s.params[i]? = some p)
    (hreq : p.2 = false) :
    findFunctionA chain name args ≠ .ok s := by
  intro h
  have hv := (chosenA_viable chain name args s h).1
  have := (viableA_iff_forall.mp hv).2.2.1 i (List.getElem?_eq_some_iff.mp hp).1
  simp only [SpecA.optionalAt, hp, hreq, Bool.false_eq_true, or_false] at this
  omega
#print axioms missingRequiredA_never_chosen

theorem scopeA_defers (sc : ScopeA) (rest : List ScopeA) (name : String) (args : List ATy)
    (h : ∀ t ∈ sc, t.name ≠ name) :
    findFunctionA (sc :: rest) name args = findFunctionA rest name args := by
  rw [findFunctionA_eq_rank, findFunctionA_eq_rank]
  exact Rank.findFunction_cons_of_absent rest h
#print axioms scopeA_defers

/-- Conversely a scope that declares the name answers, even with an error (shadowing). -/
theorem scopeA_answers (sc : ScopeA) (rest : List ScopeA) (name : String) (args : List ATy)
    (h : ∃ t ∈ sc, t.name = name) :
    findFunctionA (sc :: rest) name args = SpecA.best sc name args := by
  rw [findFunctionA_eq_rank, SpecA.best_eq_rank]
  exact Rank.findFunction_cons_of_mem (lawsA args) rest h
#print axioms scopeA_answers

theorem unique_minA_chosen (pre : List ScopeA) (sc : ScopeA) (post : List ScopeA)
    (name : String) (args : List ATy) (s : SigA)
    (hpre : ∀ sc' ∈ pre, ∀ t ∈ sc', t.name ≠ name)
    (hs : s ∈ sc) (hv : SpecA.viable s name args = true) (hcount : sc.count s = 1)
    (hmin : ∀ t ∈ sc, SpecA.viable t name args = true → t ≠ s →
      SpecA.cost s args < SpecA.cost t args) :
    findFunctionA (pre ++ sc :: post) name args = .ok s := by
  rw [findFunctionA_eq_rank]
  exact (Rank.findFunction_eq_ok_iff (lawsA args)).mpr
    ⟨pre, sc, post, rfl, hpre, hs, hv, hcount, hmin⟩
#print axioms unique_minA_chosen

-- facts about `IsCompatible` / `Match`, proved in `Nsl/Proofs/OverloadAgg.lean`
#print axioms isCompatibleA_symm
#print axioms isCompatibleA_refl_struct
#print axioms isCompatibleA_struct_iff
#print axioms isCompatibleA_refl
#print axioms matchTyA_self
#print axioms matchTyA_refl
#print axioms matchTyA_eq_zero_iff

theorem costA_pos_of_diff {s : SigA} {args : List ATy} {i : Nat} (hi : i < args.length)
    (hd : args[i]? ≠ (s.params[i]?).map (·.1)) : 0 < SpecA.cost s args := by
  unfold SpecA.cost
  apply List.length_pos_of_mem (a := i)
  rw [List.mem_filter]
  exact ⟨List.mem_range.mpr hi, by simpa using hd⟩

/-- If the parameter types of a declaration (declared once in the innermost scope having the
name) are exactly the argument types and every other viable candidate of that scope differs from
the arguments at some position, then that declaration is chosen: cost `0` is a strict minimum.
(It fails for arrays and structures if `Match` compares types by identity: an aggregate argument
then never scores `0`.) -/
theorem exact_beats_converted' (pre : List ScopeA) (sc : ScopeA) (post : List ScopeA)
    (name : String) (args : List ATy) (s : SigA)
    (hpre : ∀ sc' ∈ pre, ∀ t ∈ sc', t.name ≠ name)
    (hs : s ∈ sc) (hname : s.name = name) (hcount : sc.count s = 1)
    (hexact : s.params.map (·.1) = args)
    (hother : ∀ t ∈ sc, SpecA.viable t name args = true → t ≠ s →
      ∃ i, i < args.length ∧ args[i]? ≠ (t.params[i]?).map (·.1)) :
    findFunctionA (pre ++ sc :: post) name args = .ok s := by
  subst hexact
  have hv : SpecA.viable s name (s.params.map (·.1)) = true :=
    (viableA_iff _ _ _).mpr ⟨hname, compatAllA_map_fst _⟩
  have h0 : SpecA.cost s (s.params.map (·.1)) = 0 := by
    rw [costA_eq_zero_iff, List.take_of_length_le (Nat.le_refl _)]
  apply unique_minA_chosen pre sc post name _ s hpre hs hv hcount
  intro t ht hvt hne
  obtain ⟨i, hi, hd⟩ := hother t ht hvt hne
  rw [h0]; exact costA_pos_of_diff hi hd
#print axioms exact_beats_converted'

/-- The same with the hypothesis that the argument types are self-compatible, which always holds
(`isCompatibleA_refl`). -/
theorem exact_beats_converted (pre : List ScopeA) (sc : ScopeA) (post : List ScopeA)
    (name : String) (args : List ATy) (s : SigA)
    (hpre : ∀ sc' ∈ pre, ∀ t ∈ sc', t.name ≠ name)
    (hs : s ∈ sc) (hname : s.name = name) (hcount : sc.count s = 1)
    (hexact : s.params.map (·.1) = args)
    (hself : ∀ a ∈ args, isCompatibleA a a = true)
    (hother : ∀ t ∈ sc, SpecA.viable t name args = true → t ≠ s →
      ∃ i, i < args.length ∧ args[i]? ≠ (t.params[i]?).map (·.1)) :
    findFunctionA (pre ++ sc :: post) name args = .ok s := by
  have _ := hself
  exact exact_beats_converted' pre sc post name args s hpre hs hname hcount hexact hother
#print axioms exact_beats_converted

/-- On primitive types and without optional parameters this mirror is the one of
`Nsl/Model/Overload.lean`. -/
theorem findFunctionA_embed (chain : List Scope) (name : String) (args : List Ty) :
    findFunctionA (chain.map (·.map embedSig)) name (args.map .prim) =
      (findFunction chain name args).map embedSig := by
  rw [findFunctionA_eq_rank, findFunction_eq_rank]
  exact Rank.findFunction_map embedSig (fun _ => rfl) (fun s => matchSigA_embed s args) chain name
#print axioms findFunctionA_embed

/-- The same for the specifications (via the two mirror = specification theorems). -/
theorem resolveA_embed (chain : List Scope) (name : String) (args : List Ty) :
    SpecA.resolve (chain.map (·.map embedSig)) name (args.map .prim) =
      (Spec.resolve chain name args).map embedSig := by
  rw [← findFunctionA_eq_spec, ← findFunction_eq_spec, findFunctionA_embed]
#print axioms resolveA_embed

theorem embedSig_injective : ∀ (s t : Sig), embedSig s = embedSig t → s = t := by
  intro s t h
  cases s with
  | mk n r ps =>
    cases t with
    | mk n' r' ps' =>
      simp only [embedSig, SigA.mk.injEq] at h
      obtain ⟨h1, h2, h3⟩ := h
      have : ps = ps' := by
        have := congrArg (List.map fun (p : ATy × Bool) => match p.1 with
          | .prim t => t | _ => Ty.scalar .float) h3
        simpa [List.map_map, Function.comp_def] using this
      rw [h1, h2, this]
#print axioms embedSig_injective

section Examples

private def f : ATy := .prim (.scalar .float)
private def i : ATy := .prim (.scalar .int)
private def u : ATy := .prim (.scalar .uint)
private def f2 : ATy := .prim (.vec .float 2)
private def fa3 : ATy := .arr f [3]
private def ia3 : ATy := .arr i [3]
private def ia4 : ATy := .arr i [4]
private def ia23 : ATy := .arr i [2, 3]
private def f2a3 : ATy := .arr f2 [3]
private def sP : ATy := .struct "P" [("x", f), ("y", ia3)]
private def sP' : ATy := .struct "P" [("x", f), ("y", fa3)]   -- same name, other declarations
private def sQ : ATy := .struct "Q" [("x", f), ("y", ia3)]    -- other name, same declarations

private def r (t : ATy) : ATy × Bool := (t, false)
private def o (t : ATy) : ATy × Bool := (t, true)

-- the array overload pair `g(float[3])`, `g(int[3])`
private def scG : ScopeA := [⟨"g", 0, [r fa3]⟩, ⟨"g", 1, [r ia3]⟩]

example : findFunctionA [scG] "g" [fa3] = .ok ⟨"g", 0, [r fa3]⟩ := by decide +kernel     -- exact
example : findFunctionA [scG] "g" [ia3] = .ok ⟨"g", 1, [r ia3]⟩ := by decide +kernel     -- exact
example : findFunctionA [scG.reverse] "g" [fa3] = .ok ⟨"g", 0, [r fa3]⟩ := by decide +kernel
example : findFunctionA [scG] "g" [.arr u [3]] = .error .ambiguous := by decide +kernel  -- both convert
example : findFunctionA [scG] "g" [ia4] = .error .noMatch := by decide +kernel           -- size differs
example : findFunctionA [scG] "g" [ia23] = .error .noMatch := by decide +kernel
example : findFunctionA [scG] "g" [f2a3] = .error .noMatch := by decide +kernel          -- element float2 ↛ float
example : findFunctionA [scG] "g" [f] = .error .noMatch := by decide +kernel             -- scalar ↛ array
example : SpecA.resolve [scG] "g" [fa3] = .ok ⟨"g", 0, [r fa3]⟩ := by decide +kernel
example : SpecA.cost ⟨"g", 0, [r fa3]⟩ [fa3] = 0 ∧ SpecA.cost ⟨"g", 1, [r ia3]⟩ [fa3] = 1 := by
  decide +kernel

-- a structure argument: only the structurally equal structure type is compatible
private def scS : ScopeA := [⟨"h", 0, [r sP', r f]⟩, ⟨"h", 1, [r sP, r i]⟩, ⟨"h", 2, [r sQ, r f]⟩]
example : findFunctionA [scS] "h" [sP, f] = .ok ⟨"h", 1, [r sP, r i]⟩ := by decide +kernel
example : findFunctionA [scS] "h" [sQ, f] = .ok ⟨"h", 2, [r sQ, r f]⟩ := by decide +kernel
example : findFunctionA [scS] "h" [.struct "P" [], f] = .error .noMatch := by decide +kernel
example : isCompatibleA sP sP = true ∧ isCompatibleA sP sP' = false ∧ isCompatibleA sP sQ = false ∧
    isCompatibleA sP f = false ∧ isCompatibleA fa3 sP = false ∧ matchTyA sP sP = 0 ∧
    matchTyA fa3 fa3 = 0 ∧ matchTyA fa3 ia3 = 1 ∧ matchTyA fa3 ia4 = -1 := by decide +kernel

-- optional parameters cut off
private def scO : ScopeA := [⟨"k", 0, [r f, o i, o f]⟩, ⟨"k", 1, [r i]⟩, ⟨"k", 2, [r f, r f2]⟩]
example : findFunctionA [scO] "k" [f] = .ok ⟨"k", 0, [r f, o i, o f]⟩ := by decide +kernel     -- 2 cut off
example : findFunctionA [scO] "k" [i] = .ok ⟨"k", 1, [r i]⟩ := by decide +kernel
example : findFunctionA [scO] "k" [f, i] = .ok ⟨"k", 0, [r f, o i, o f]⟩ := by decide +kernel  -- 1 cut off
example : findFunctionA [scO] "k" [f, f2] = .ok ⟨"k", 2, [r f, r f2]⟩ := by decide +kernel
example : findFunctionA [scO] "k" [] = .error .noMatch := by decide +kernel      -- a required one is missing
example : findFunctionA [scO] "k" [f, f, f, f] = .error .noMatch := by decide +kernel
example : findFunctionA [[⟨"k", 0, [o f]⟩]] "k" [] = .ok ⟨"k", 0, [o f]⟩ := by decide +kernel
example : findFunctionA [[⟨"k", 0, [r f, o i]⟩, ⟨"k", 1, [r f]⟩]] "k" [f] = .error .ambiguous := by
  decide +kernel

-- nested scopes: the innermost scope that has the name answers, even with an error
example : findFunctionA [[⟨"z", 9, [r f]⟩], scG] "g" [fa3] = .ok ⟨"g", 0, [r fa3]⟩ := by decide +kernel
example : findFunctionA [[⟨"g", 9, [r f]⟩], scG] "g" [fa3] = .error .noMatch := by decide +kernel
example : findFunctionA [[⟨"g", 9, [r fa3]⟩], scG] "g" [fa3] = .ok ⟨"g", 9, [r fa3]⟩ := by decide +kernel
example : findFunctionA [[], scG] "q" [fa3] = .error .unknown := by decide +kernel
example : SpecA.resolve [[⟨"g", 9, [r f]⟩], scG] "g" [fa3] = .error .noMatch := by decide +kernel

-- hypotheses of `exact_beats_converted` for `g(float[3])` behind a scope without `g`
example :
    (∀ sc' ∈ [([⟨"z", 9, [r f]⟩] : ScopeA)], ∀ t ∈ sc', t.name ≠ "g") ∧
    (⟨"g", 0, [r fa3]⟩ : SigA) ∈ scG ∧ scG.count ⟨"g", 0, [r fa3]⟩ = 1 ∧
    (SigA.mk "g" 0 [r fa3]).params.map (·.1) = [fa3] ∧
    (∀ t ∈ scG, SpecA.viable t "g" [fa3] = true → t ≠ ⟨"g", 0, [r fa3]⟩ →
      ∃ k, k < [fa3].length ∧ [fa3][k]? ≠ (t.params[k]?).map (·.1)) := by
  refine ⟨by decide +kernel, by decide +kernel, by decide +kernel, by decide +kernel, ?_⟩
  intro t ht _ hne
  refine ⟨0, by decide, ?_⟩
  revert t; decide +kernel
-- hypotheses of `nonviableA_never_chosen`, `missingRequiredA_never_chosen`
example : [ia4][0]? = some ia4 ∧ (SigA.mk "g" 1 [r ia3]).params[0]? = some (r ia3) ∧
    isCompatibleA ia4 (r ia3).1 = false := by decide +kernel
example : ([f] : List ATy).length ≤ 1 ∧ (SigA.mk "k" 2 [r f, r f2]).params[1]? = some (r f2) ∧
    (r f2).2 = false := by decide +kernel
-- the embedding on a concrete chain
example : findFunctionA ([[⟨"h", 1, [.scalar .float]⟩, ⟨"h", 2, [.scalar .int]⟩]].map
      (·.map embedSig)) "h" ([.scalar .uint].map .prim) = .error .ambiguous := by decide +kernel

-- driver helpers (checked by evaluation)
#guard (parseATy? "A[s:float;3]").isSome ∧ (parseATy? "S{P;x=s:float;y=A[s:int;3]}").isSome ∧
    (parseATy? "A[A[v:int:2;2];3;4]").isSome ∧ (parseATy? "S{P}").isSome ∧
    (parseATy? "A[s:float;3").isNone ∧ (parseATy? "S{P;x}").isNone ∧ (parseATy? "void").isNone
#guard runA "g" "A[s:float;3]" ["g/0/A[s:float;3]", "g/1/A[s:int;3]"] = "ok 0 ok 0"
#guard runA "g" "A[s:uint;3]" ["g/0/A[s:float;3]", "g/1/A[s:int;3]"] = "ambiguous ambiguous"
#guard runA "k" "s:float" ["k/0/s:float,?s:int,?s:float", "k/1/s:int"] = "ok 0 ok 0"
#guard runA "g" "s:float" ["h/0/s:float", "|", "g/1/s:int"] = "ok 1 ok 1"
#guard runA "g" "s:float" ["g/0/v:float:2", "|", "g/1/s:int"] = "nomatch nomatch"

end Examples

end Nsl.Overload
