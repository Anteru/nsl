import Nsl.Props.LowerOKStorage
/-!
# The lowering model only produces block-local, single-definition, forwardable code (scalar core)

For every module `M` of the scalar core, every function of `Lower.lowerModule M` satisfies the side conditions `optOK`
under which the optimiser model is proved correct (`C02_opt_correct`):
* `lower_defsDistinct` – every reference is defined by at most one instruction;
* `lower_blockLocal`   – every use is preceded by its definition in the same basic block;
* `lower_forwardOK`    – store/load forwarding is scope-correct and never forwards an aggregate alias; needs in addition
  the DECIDABLE hypothesis `NoShadow M` (`Model/ScalarCore.lean`): inside one function no variable key is accessed
  under two different scopes.  `ScalarCore` alone is not enough: `LowerOKEx.shadow_not_forwardOK`.
The scalar core is part of the storage core (`scalarCore_storageCore`), and the theorems here are those of
`Props/LowerOKStorage.lean` for it.
Composition with C01 and C02: `C01_opt_compile_correct` — the OPTIMISING compiler model is correct on the scalar core.
-/
namespace Nsl
open Core VM Lower Opt

theorem lower_defsDistinct (M : Core.Module) (hM : ScalarCore M)
    (f : Func) (hf : f ∈ (Lower.lowerModule M).funcs) : defsDistinct f.code = true :=
  lower_defsDistinct_storage M (scalarCore_storageCore hM) f hf

#print axioms lower_defsDistinct

theorem lower_blockLocal (M : Core.Module) (hM : ScalarCore M)
    (f : Func) (hf : f ∈ (Lower.lowerModule M).funcs) : blockLocal [] f.code = true :=
  lower_blockLocal_storage M (scalarCore_storageCore hM) f hf

#print axioms lower_blockLocal

theorem lower_forwardOK (M : Core.Module) (hM : ScalarCore M) (hS : NoShadow M)
    (f : Func) (hf : f ∈ (Lower.lowerModule M).funcs) : forwardOK none (pass ccDecide f.code) = true :=
  lower_forwardOK_storage M (scalarCore_storageCore hM) hS f hf

#print axioms lower_forwardOK

theorem lower_optOK (M : Core.Module) (hM : ScalarCore M) (hS : NoShadow M)
    (f : Func) (hf : f ∈ (Lower.lowerModule M).funcs) : optOK f = true :=
  lower_optOK_storage M (scalarCore_storageCore hM) hS f hf

#print axioms lower_optOK

/-- The optimising compiler is correct on the scalar core: hypotheses of `C01_compile_correct` plus `NoShadow M`;
the conclusion is that of `C01_compile_correct` with `lowerModule M` replaced by `optProgram (lowerModule M)`. -/
theorem C01_opt_compile_correct (M : Core.Module) (hM : ScalarCore M) (hS : NoShadow M)
    (fuel : Nat) (name : String) (args : List Val) (g : Globals) (v : Val) (g' : Globals) (as : List Val)
    (hargs : HostVals args) (hg : HostGlobals g)
    (href : CoreSem.invoke M fuel name args g = .done v g' as) :
    ∃ fuel', VM.invoke (Opt.optProgram (Lower.lowerModule M)) fuel' name args g = .done v g' as :=
  (C01_compile_correct M hM fuel name args g v g' as hargs hg href).imp fun fuel' h =>
    C02_opt_correct (lowerModule M) (lower_optOK M hM hS) fuel' name args g v g' as h

#print axioms C01_opt_compile_correct

/-- The same in the shape of `C01_Statement`, for the domain `ScalarCore ∧ NoShadow` and the optimised program. -/
theorem C01_opt_statement :
    ∀ (M : Core.Module), ScalarCore M ∧ NoShadow M →
    ∀ (fuel : Nat) (name : String) (args : List Val) (g : Globals) (v : Val) (g' : Globals) (as : List Val),
      HostVals args → HostGlobals g →
      CoreSem.invoke M fuel name args g = .done v g' as →
      ∃ fuel', VM.invoke (Opt.optProgram (lowerModule M)) fuel' name args g = .done v g' as :=
  fun M hM fuel name args g v g' as ha hg href =>
    C01_opt_compile_correct M hM.1 hM.2 fuel name args g v g' as ha hg href

#print axioms C01_opt_statement

namespace LowerOKEx
open C01Ex

/-- The module of `C01Ex` (all three loop forms, break/continue, recursion, a global) has no shadowing. -/
theorem noShadow : NoShadow C01Ex.M := by
  intro fn hfn
  simp only [C01Ex.M, List.mem_cons, List.mem_nil_iff, or_false] at hfn
  rcases hfn with rfl | rfl <;> decide

example : ∀ f ∈ (lowerModule C01Ex.M).funcs,
    defsDistinct f.code = true ∧ blockLocal [] f.code = true ∧ forwardOK none (pass ccDecide f.code) = true ∧
      optOK f = true :=
  fun f hf => ⟨lower_defsDistinct _ C01Ex.scalarCore f hf, lower_blockLocal _ C01Ex.scalarCore f hf,
    lower_forwardOK _ C01Ex.scalarCore noShadow f hf, lower_optOK _ C01Ex.scalarCore noShadow f hf⟩

/-- The OPTIMISED lowered program returns 13 and leaves g = 16 on `f(5)`. -/
example : ∃ fuel' as, VM.invoke (optProgram (lowerModule C01Ex.M)) fuel' "f" [.int 5] [("g", .int 10)] =
    .done (.int 13) [("g", .int 16)] as := by
  obtain ⟨fuel', h'⟩ := C01_opt_compile_correct C01Ex.M C01Ex.scalarCore noShadow 200 "f" [.int 5] [("g", .int 10)]
    _ _ _
    (by intro a ha; simp at ha; subst ha; rfl)
    (by intro n x hx; simp [Map.get] at hx; obtain ⟨_, rfl⟩ := hx; rfl)
    C01Ex.ref_run
  exact ⟨fuel', _, h'⟩

/-! ### A small function whose lowered code is optimised

`function demo(int n) -> int { int x = n; return x + 1; }` -/
def demo : FnDef := ⟨"demo", [("n", i32)], i32,
  .seq (.decl "x" i32 (some (va 0))) (.ret (some (b .add (vl "x") (.litI 1))))⟩

def Mdemo : Core.Module := ⟨[], [demo]⟩

theorem demo_code : (lowerFn demo).code =
    [.newVar 0 i32 "x", .load 1 i32 .arg (.index 0), .store .local (.name "x") (.ref 1),
     .load 3 i32 .local (.name "x"), .bin 4 (.s .add) i32 (.ref 3) (.cInt 1), .ret (some (.ref 4))] := by
  simp [lowerFn, demo, lowerS, lowerE, mkBin, fromOperation, Expr.ty, ITy.isMatrix, ITy.isScalar, va, vl, b, i32,
    BOp.toSOp]

theorem demo_ok : ScalarCore Mdemo ∧ NoShadow Mdemo := by
  constructor <;>
  · intro fn hfn
    simp only [Mdemo, List.mem_cons, List.mem_nil_iff, or_false] at hfn
    subst hfn; decide

example : optOK (lowerFn demo) = true :=
  lower_optOK Mdemo demo_ok.1 demo_ok.2 _ (by simp [lowerModule, Mdemo])

/-- Cross-check by evaluating the checker on `demo_code`. -/
example : optOK (lowerFn demo) = true := by
  simp only [optOK, demo_code]; decide +kernel

/-- the load after the store is forwarded -/
example : (optFn (lowerFn demo)).code =
    [.newVar 0 i32 "x", .load 1 i32 .arg (.index 0), .store .local (.name "x") (.ref 1),
     .bin 4 (.s .add) i32 (.ref 1) (.cInt 1), .ret (some (.ref 4))] := by
  simp only [optFn, demo_code]; rfl

/-! ### `NoShadow` is needed for `forwardOK`

`function shadow() -> int { x = 1; return ::x; }` with the first `x` resolved to a local and the second to the global
of the same name: in the scalar core, block-local and single-definition, but the store is directly followed by a load
of the same key in another scope. -/
def shadow : FnDef := ⟨"shadow", [], i32,
  .seq (.expr (.assign (vl "x") (.litI 1))) (.ret (some (vg "x")))⟩

def Mshadow : Core.Module := ⟨[("x", i32)], [shadow]⟩

theorem shadow_scalarCore : ScalarCore Mshadow := by
  intro fn hfn
  simp only [Mshadow, List.mem_cons, List.mem_nil_iff, or_false] at hfn
  subst hfn; rfl

theorem shadow_code : (lowerFn shadow).code =
    [.store .local (.name "x") (.cInt 1), .load 1 i32 .global (.name "x"), .ret (some (.ref 1))] := by
  simp [lowerFn, shadow, lowerS, lowerE, lowerStore, vl, vg, i32]

theorem shadow_not_forwardOK :
    ScalarCore Mshadow ∧ ¬ NoShadow Mshadow ∧
    ∃ f ∈ (lowerModule Mshadow).funcs, defsDistinct f.code = true ∧ blockLocal [] f.code = true ∧
      forwardOK none (pass ccDecide f.code) = false ∧ optOK f = false := by
  refine ⟨shadow_scalarCore, ?_, lowerFn shadow, by simp [lowerModule, Mshadow], ?_⟩
  · intro h
    have := h shadow (by simp [Mshadow])
    revert this; decide
  · refine ⟨lower_defsDistinct _ shadow_scalarCore _ (by simp [lowerModule, Mshadow]),
      lower_blockLocal _ shadow_scalarCore _ (by simp [lowerModule, Mshadow]), ?_, ?_⟩
    · rw [shadow_code]; decide +kernel
    · simp only [optOK, shadow_code]; decide +kernel

#print axioms shadow_not_forwardOK

end LowerOKEx

end Nsl
