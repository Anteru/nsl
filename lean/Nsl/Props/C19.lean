import Nsl.Model.Leb
import Nsl.Proofs.Leb

/-!
# C19 — LEB128 integers, length-prefixed names, section / body size fields

Model: `Nsl.Model.Leb` (`packInteger` mirrors `PackInteger` of `/repo/nsl/WebAssembly.py`,
`encS` mirrors `PackSignedInteger`; `encU`/`decU`/`decS` are the textbook LEB128
encoder / decoders; `frame` = `WriteInteger(len(p)); write(p)`; `sectionBytes` = `WriteByte(id)` + frame).
-/

namespace Nsl.Leb

theorem decU_encU (n : Nat) (rest : List Nat) : decU (encU n ++ rest) = some (n, rest) := by
  rw [decU, decULoop_encU, Nat.zero_add, Nat.pow_zero, Nat.mul_one]
#print axioms decU_encU

theorem decS_encS (z : Int) (rest : List Nat) : decS (encS z ++ rest) = some (z, rest) := by
  obtain ⟨k, hk, hf⟩ := encS_fits z
  rw [hk]
  exact (decS_packLoop rest k z).2 hf
#print axioms decS_encS

theorem pack_eq_encU (n : Nat) : packInteger (n : Int) = encU n := by
  by_cases h : n = 0
  · subst h; rfl
  · rw [packInteger_of_ne (Int.natCast_ne_zero.2 h)]
    exact packLoop_nat n h
#print axioms pack_eq_encU

/-- Every count / size / index the writer emits is recovered by the standard unsigned decoder. -/
theorem decU_pack (n : Nat) (rest : List Nat) :
    decU (packInteger (n : Int) ++ rest) = some (n, rest) := by
  rw [pack_eq_encU, decU_encU]
#print axioms decU_pack

theorem encU_bytes (n : Nat) : ∀ b ∈ encU n, b < 256 := (encU_selfDelimiting n).bytes
#print axioms encU_bytes

theorem encS_bytes (z : Int) : ∀ b ∈ encS z, b < 256 := (encS_selfDelimiting z).bytes
#print axioms encS_bytes

theorem pack_bytes (n : Nat) : ∀ b ∈ packInteger (n : Int), b < 256 := by
  rw [pack_eq_encU]; exact encU_bytes n
#print axioms pack_bytes

theorem encU_continuation (n : Nat) :
    ∃ pre last, encU n = pre ++ [last] ∧ (∀ b ∈ pre, 128 ≤ b ∧ b < 256) ∧ last < 128 :=
  encU_selfDelimiting n
#print axioms encU_continuation

theorem encS_continuation (z : Int) :
    ∃ pre last, encS z = pre ++ [last] ∧ (∀ b ∈ pre, 128 ≤ b ∧ b < 256) ∧ last < 128 :=
  encS_selfDelimiting z
#print axioms encS_continuation

theorem encU_continuation' (n : Nat) :
    (∀ b ∈ (encU n).dropLast, 128 ≤ b) ∧ ∃ l, (encU n).getLast? = some l ∧ l < 128 :=
  ⟨(encU_selfDelimiting n).dropLast, (encU_selfDelimiting n).getLast⟩
#print axioms encU_continuation'

theorem encS_continuation' (z : Int) :
    (∀ b ∈ (encS z).dropLast, 128 ≤ b) ∧ ∃ l, (encS z).getLast? = some l ∧ l < 128 :=
  ⟨(encS_selfDelimiting z).dropLast, (encS_selfDelimiting z).getLast⟩
#print axioms encS_continuation'

theorem encU_length_u32 (n : Nat) (h : n < 2 ^ 32) : (encU n).length ≤ 5 :=
  encU_length_le 4 n (by omega)
#print axioms encU_length_u32

theorem encS_length_i32 (z : Int) (h : -2 ^ 31 ≤ z ∧ z < 2 ^ 31) : (encS z).length ≤ 5 :=
  (encS_length_le_iff 4 z).2 (by unfold FitsS; omega)
#print axioms encS_length_i32

-- hypotheses satisfiable, bounds tight
example : (2 ^ 32 - 1 : Nat) < 2 ^ 32 ∧ (encU (2 ^ 32 - 1)).length = 5 := by decide
example : (-2 ^ 31 ≤ (-2 ^ 31 : Int) ∧ (-2 ^ 31 : Int) < 2 ^ 31) ∧ (encS (-2 ^ 31)).length = 5 := by
  decide
example : (-2 ^ 31 ≤ (2 ^ 31 - 1 : Int) ∧ (2 ^ 31 - 1 : Int) < 2 ^ 31) ∧
    (encS (2 ^ 31 - 1)).length = 5 := by decide

theorem unframe_frame (p rest : List Nat) : unframe (frame p ++ rest) = some (p, rest) := by
  unfold unframe frame
  rw [List.append_assoc, decU_encU]
  simp only [List.length_append, Nat.le_add_right, if_true, List.take_left, List.drop_left]
#print axioms unframe_frame

theorem frame_length (p rest : List Nat) :
    decU (frame p ++ rest) = some (p.length, p ++ rest) := by
  unfold frame; rw [List.append_assoc, decU_encU]
#print axioms frame_length

/-- What the Python writes (size through `PackInteger`) is exactly that frame. -/
theorem framePy_eq_frame (p : List Nat) : framePy p = frame p := by
  unfold framePy frame; rw [pack_eq_encU]
#print axioms framePy_eq_frame

theorem unframe_framePy (p rest : List Nat) : unframe (framePy p ++ rest) = some (p, rest) := by
  rw [framePy_eq_frame, unframe_frame]
#print axioms unframe_framePy

theorem unsection_section (id : Nat) (p rest : List Nat) :
    unsection (sectionBytes id p ++ rest) = some (id, p, rest) := by
  simp only [sectionBytes, List.cons_append, unsection, unframe_frame]
#print axioms unsection_section

theorem sectionBytesPy_eq (id : Nat) (p : List Nat) : sectionBytesPy id p = sectionBytes id p := by
  unfold sectionBytesPy sectionBytes; rw [framePy_eq_frame]
#print axioms sectionBytesPy_eq

theorem section_size_field (id : Nat) (p rest : List Nat) :
    ∃ tail, sectionBytesPy id p ++ rest = id :: tail ∧ decU tail = some (p.length, p ++ rest) := by
  refine ⟨frame p ++ rest, ?_, frame_length p rest⟩
  rw [sectionBytesPy_eq]; rfl
#print axioms section_size_field

/-- Names (`WriteString`): length-prefixed UTF-8. -/
theorem writeString_roundtrip (s : String) (rest : List Nat) :
    unframe (writeStringPy s ++ rest) = some (utf8 s, rest) := by
  unfold writeStringPy; rw [unframe_framePy]
#print axioms writeString_roundtrip

theorem utf8_length (s : String) : (utf8 s).length = s.utf8ByteSize := by
  unfold utf8; rw [List.length_map, Array.length_toList]; exact String.size_toByteArray

theorem writeString_size_field (s : String) (rest : List Nat) :
    decU (writeStringPy s ++ rest) = some (s.utf8ByteSize, utf8 s ++ rest) := by
  unfold writeStringPy; rw [framePy_eq_frame, frame_length, utf8_length]
#print axioms writeString_size_field

theorem utf8_bytes (s : String) : ∀ b ∈ utf8 s, b < 256 := by
  intro b hb
  simp only [utf8, List.mem_map] at hb
  obtain ⟨x, _, rfl⟩ := hb
  exact x.toNat_lt
#print axioms utf8_bytes

theorem utf8_injective (s t : String) (h : utf8 s = utf8 t) : s = t := by
  unfold utf8 at h
  have h1 := (List.map_inj_right (fun a b hab => UInt8.toNat_inj.1 hab)).1 h
  apply String.toByteArray_inj.1
  have h2 : s.toUTF8.data = t.toUTF8.data := Array.toList_inj.1 h1
  simp only [String.toUTF8_eq_toByteArray] at h2
  exact ByteArray.ext h2
#print axioms utf8_injective

example : unsection (sectionBytesPy 10 (List.replicate 200 7) ++ [1, 2]) =
    some (10, List.replicate 200 7, [1, 2]) := by rw [sectionBytesPy_eq, unsection_section]
example : sectionBytesPy 10 (List.replicate 200 7) = 10 :: 0xC8 :: 0x01 :: List.replicate 200 7 := by
  have h : packInteger ((List.replicate 200 7).length : Int) = [0xC8, 0x01] := by
    rw [List.length_replicate]; decide +kernel
  rw [sectionBytesPy, framePy, h]; rfl

/-! `WriteInteger` = `packInteger` is the unsigned packer; the writer encodes `i32.const` immediates with
`PackSignedInteger` = `encS`. "Recovered exactly by the standard *signed* decoder over the whole i32
range" is FALSE for the `PackInteger` path. -/

/-- The (false) full-strength statement for the `PackInteger` path. -/
def packInteger_signed_Statement : Prop :=
  ∀ (z : Int), -2 ^ 31 ≤ z ∧ z < 2 ^ 31 → ∀ rest, decS (packInteger z ++ rest) = some (z, rest)

example : packInteger 64 ≠ encS 64 := by decide
example : decS (packInteger 64) = some (-64, []) := by decide
example : packInteger (-65) ≠ encS (-65) := by decide
example : decS (packInteger (-65)) = some (63, []) := by decide
example : packInteger (-123456) = encS (-123456) := by decide
example : hex (packInteger 64) = "40" ∧ hex (encS 64) = "c000" := by decide +kernel

theorem packInteger_signed_false : ¬ packInteger_signed_Statement := by
  intro h
  have := h 64 (by decide) []
  revert this
  decide
#print axioms packInteger_signed_false

theorem decS_pack_iff (z : Int) (rest : List Nat) :
    decS (packInteger z ++ rest) = some (z, rest) ↔ packInteger z = encS z := by
  by_cases h0 : z = 0
  · subst h0; exact iff_of_true rfl rfl
  · obtain ⟨k, hk⟩ := Nat.exists_eq_add_one.2 (blockCount_pos h0)
    rw [packInteger_eq_encS_iff_fits h0, packInteger_of_ne h0, hk, decS_packLoop]
    rfl
#print axioms decS_pack_iff

/-- The top 7-bit group computed from `bit_length(|z|)` must already carry the sign bit. -/
theorem packInteger_eq_encS_iff (z : Int) :
    packInteger z = encS z ↔
      (z = 0 ∨ bitLength z.natAbs % 7 ≠ 0 ∨
        (z < 0 ∧ bitLength (z.natAbs - 1) < bitLength z.natAbs)) := by
  by_cases h0 : z = 0
  · subst h0; exact iff_of_true rfl (Or.inl rfl)
  · have h1 := blockCount_pos h0
    have hc := blockCount_bounds z
    rw [packInteger_eq_encS_iff_fits h0, fitsS_iff_bitLength]
    -- `c = blockCount z`, `b = bitLength |z|`: `b ≤ 7c ≤ b + 6` (`hc`); `z` fits iff the magnitude to store has
    -- at most `7c - 1` bits: `b ≠ 7c` for `z > 0`; for `z < 0` it is `|z| - 1`, of length `b` or `b - 1`
    split
    · have := bitLength_pred z.natAbs
      omega
    · omega
#print axioms packInteger_eq_encS_iff

/-- Bit 6 of the top 7-bit group must be clear. -/
theorem packInteger_eq_encS_iff_nat (n : Nat) :
    packInteger (n : Int) = encS (n : Int) ↔ (n = 0 ∨ bitLength n % 7 ≠ 0) := by
  rw [packInteger_eq_encS_iff, Int.natAbs_natCast]; omega
#print axioms packInteger_eq_encS_iff_nat

/-- `bitLength (m - 1) < bitLength m` iff `m` is a power of two (`bitLength_pred_lt_iff`). -/
theorem packInteger_eq_encS_iff_neg (m : Nat) (hm : 0 < m) :
    packInteger (-(m : Int)) = encS (-(m : Int)) ↔
      (bitLength m % 7 ≠ 0 ∨ bitLength (m - 1) < bitLength m) := by
  rw [packInteger_eq_encS_iff, Int.natAbs_neg, Int.natAbs_natCast]; omega
#print axioms packInteger_eq_encS_iff_neg

example : (0 : Nat) < 123456 ∧ bitLength 123456 % 7 ≠ 0 := by decide

theorem packIsSigned_spec (z : Int) : packIsSigned z = true ↔ packInteger z = encS z := by
  rw [packInteger_eq_encS_iff]
  simp only [packIsSigned, Bool.or_eq_true, Bool.and_eq_true, beq_iff_eq, bne_iff_ne,
    decide_eq_true_eq, or_assoc]
#print axioms packIsSigned_spec

/-- Strongest true variant for the `PackInteger` path (all integers, not only i32). -/
theorem packInteger_signed_partial (z : Int) (h : packIsSigned z = true) (rest : List Nat) :
    decS (packInteger z ++ rest) = some (z, rest) :=
  (decS_pack_iff z rest).2 ((packIsSigned_spec z).1 h)
#print axioms packInteger_signed_partial

theorem packInteger_signed_partial_converse (z : Int) (rest : List Nat)
    (h : decS (packInteger z ++ rest) = some (z, rest)) : packIsSigned z = true :=
  (packIsSigned_spec z).2 ((decS_pack_iff z rest).1 h)
#print axioms packInteger_signed_partial_converse

example : packIsSigned (-123456) = true := by decide
example : packIsSigned 63 = true ∧ packIsSigned 64 = false ∧ packIsSigned 127 = false ∧
    packIsSigned 128 = true ∧ packIsSigned (-64) = true ∧ packIsSigned (-65) = false ∧
    packIsSigned (-128) = true := by decide +kernel

/-- With `PackSignedInteger` (= `encS`) the full-strength statement holds, within 5 bytes. -/
theorem encS_i32 (z : Int) (h : -2 ^ 31 ≤ z ∧ z < 2 ^ 31) (rest : List Nat) :
    decS (encS z ++ rest) = some (z, rest) ∧ (encS z).length ≤ 5 ∧ ∀ b ∈ encS z, b < 256 :=
  ⟨decS_encS z rest, encS_length_i32 z h, encS_bytes z⟩
#print axioms encS_i32

end Nsl.Leb
