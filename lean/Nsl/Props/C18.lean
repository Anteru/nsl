import Nsl.Props.C10
import Nsl.Props.C16
import Nsl.Props.C17
import Nsl.Proofs.LowerShape
/-!
# C18 – compilation is deterministic and independent of earlier compilations   (partial by nature)

Hash seeds, on-disk parser tables, default-argument objects and module-level state are runtime behaviour of CPython that
no executable model exhibits; they are covered by the correspondence runs of `harness/p_c18.py` only.  What the model
contributes are the facts that make those runs meaningful for ALL orders, not only the sampled ones:

* `C18_overload_registration_order` – the outcome of overload resolution does not depend on the order in which the
  signatures of a scope were registered (imports are a Python `set`: their registration order depends on the hash
  seed) — from the permutation theorem of C10;
* `C18_link_order` – the linked program resolves every name to the same function whatever the order in which modules
  are added and pending imports are worked off (C16);
* `C18_output_is_function_of_typed_program` – `Lower.lowerFn` / `lowerModule` take nothing but the function / module:
  the lowered module is the lowered functions one by one, and functions compiled after them leave their listings alone;
* `C18_counter_monotone` – the labels of a lowered scalar-core fragment lie between the counter it is given and the
  counter it returns.
-/
namespace Nsl

theorem C18_overload_registration_order (sc₁ sc₂ : Overload.Scope) (h : sc₁.Perm sc₂) (rest : List Overload.Scope)
    (name : String) (args : List Types.Ty) :
    Overload.findFunction (sc₁ :: rest) name args = Overload.findFunction (sc₂ :: rest) name args := by
  simp only [Overload.findFunction, Overload.findInScope_perm _ _ h]

#print axioms C18_overload_registration_order

theorem C18_link_order (loader : Link.Loader) (f1 f2 : Nat) (added1 added2 : List Link.LModule)
    (s1 s2 : Link.LState) (hsame : ∀ m, m ∈ added1 ↔ m ∈ added2)
    (h1 : Link.link loader f1 added1 = .ok s1) (h2 : Link.link loader f2 added2 = .ok s2) :
    ∀ name, s1.findFn name = s2.findFn name :=
  C16_order_independent loader f1 f2 added1 added2 s1 s2 hsame h1 h2

#print axioms C18_link_order

theorem C18_output_is_function_of_typed_program (M : Core.Module) (extra : List Core.FnDef) :
    (Lower.lowerModule M).funcs = M.fns.map Lower.lowerFn ∧
    (Lower.lowerModule ⟨M.globals, M.fns ++ extra⟩).funcs =
      (Lower.lowerModule M).funcs ++ extra.map Lower.lowerFn := by
  constructor
  · rfl
  · simp [Lower.lowerModule]

#print axioms C18_output_is_function_of_typed_program

set_option linter.unusedVariables false in
/-- The numbering of a fragment starts at the counter it is given and only grows; `h` is not used. -/
theorem C18_counter_monotone (s : Core.Stmt) (inLoop : Bool) (h : Core.okS inLoop s = true) (brk cont : Option Nat)
    (k : Nat) (c : List Instr) (k' : Nat) (hl : Lower.lowerS brk cont s k = (c, k')) :
    k ≤ k' ∧ ∀ l ∈ Lower.labels c, k ≤ l ∧ l < k' := by
  obtain ⟨h1, h2, _⟩ := Lower.lowerS_shapeG s brk cont k c k' hl
  exact ⟨h1, h2⟩

#print axioms C18_counter_monotone

end Nsl
