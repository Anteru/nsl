import Nsl.Proofs.WFOpt
import Nsl.Props.C14
/-!
# C14 – well-formedness from block-locality, and its preservation by the optimiser

Proofs: `Nsl/Proofs/WFBlock.lean` (structure ⇒ `WF`), `Nsl/Proofs/OptSimPres.lean`, `Nsl/Proofs/WFOpt.lean`.

* `blockLocal_uniqueDefs`, `blockLocal_definedOnAllPaths` – the two hard fields of `WF` from the optimiser's side
  conditions `defsDistinct` / `blockLocal`;
* `labelsDistinct_sound`, `targetsOK_sound`, `callsOK_sound` – the three easy fields from Boolean checkers;
* `wf_of_checks` – all five Boolean conditions give `WF fn P`;
* `C14_opt_preserves_checks` – all five conditions are preserved by `optFn` / `optProgram`;
* `C14_unopt_wf`, `C14_opt_preserves_wf` – `WF` of the unoptimised and of the optimised function from `optOK` and the
  three easy checkers (stated on the UNOPTIMISED code only).
-/
namespace Nsl
namespace Opt
open WF

theorem blockLocal_uniqueDefs (fn : Func) (hd : defsDistinct fn.code = true) :
    ∀ (i j : Nat) (a b : Instr) (r : Nat),
      fn.code[i]? = some a → fn.code[j]? = some b → defOf a = some r → defOf b = some r → i = j :=
  defsDistinct_uniqueDefs hd

#print axioms blockLocal_uniqueDefs

theorem blockLocal_definedOnAllPaths (fn : Func) (hb : blockLocal [] fn.code = true) :
    ∀ (p : List Nat) (q : Nat) (ins : Instr) (r : Nat),
      p.head? = some 0 → IsPath fn.code p → p.getLast? = some q →
      fn.code[q]? = some ins → r ∈ usesOf ins →
      ∃ k d, k + 1 < p.length ∧ p[k]? = some d ∧ defAt fn.code d = some r :=
  blockLocal_paths hb

#print axioms blockLocal_definedOnAllPaths

/-- The shape of every path into a non-label position, on which the previous theorem rests. -/
theorem C14_path_suffix (code : List Instr) (p : List Nat) (n q d : Nat) (hhead : p[0]? = some 0)
    (hpath : IsPath code p) (hn : p[n]? = some q)
    (hnl : ∀ m, d < m → m ≤ q → ∀ l, code[m]? ≠ some (.label l)) :
    ∀ k, k ≤ q - d → k ≤ n ∧ p[n - k]? = some (q - k) := by
  intro k hk
  rcases Nat.eq_zero_or_pos k with rfl | hpos
  · exact ⟨Nat.zero_le _, hn⟩
  · obtain ⟨j, hj, hget⟩ := path_suffix hhead hpath hn hnl k (q - k) (by omega) (by omega)
    exact ⟨by omega, by rw [← hget]; congr 1; omega⟩

#print axioms C14_path_suffix

theorem labelsDistinct_sound (fn : Func) (hl : labelsDistinct fn.code = true) :
    ∀ (i j l : Nat), fn.code[i]? = some (.label l) → fn.code[j]? = some (.label l) → i = j :=
  labelsDistinct_uniqueLabels hl

theorem targetsOK_sound (fn : Func) (ht : targetsOK fn.code = true) :
    ∀ (i : Nat) (ins : Instr) (l : Nat), fn.code[i]? = some ins → l ∈ targetsOf ins →
      ∃ p, labelPos fn.code l = some p ∧ fn.code[p]? = some (.label l) :=
  targetsOK_targetsExist ht

theorem callsOK_sound (fn : Func) (P : Program) (hc : callsOK fn P = true) :
    ∀ (i dst : Nat) (ty : ITy) (f : String) (args : List Opd),
      fn.code[i]? = some (.call dst ty f args) →
      ∃ callee, P.find f = some callee ∧ callee.params.length = args.length :=
  callsOK_callsResolve hc

#print axioms labelsDistinct_sound
#print axioms targetsOK_sound
#print axioms callsOK_sound

theorem wf_of_checks (fn : Func) (P : Program)
    (h : (blockLocal [] fn.code && defsDistinct fn.code && labelsDistinct fn.code && targetsOK fn.code
      && callsOK fn P) = true) : WF fn P :=
  wf_of_wfChecks h

#print axioms wf_of_checks

/-- The load-after-store pass keeps references block-local; `forwardOK` plays no part in this. -/
theorem C14_las_preserves_blockLocal (code : List Instr) (hbl : blockLocal [] code = true)
    (hd : defsDistinct code = true) : blockLocal [] (pass lasDecide code) = true :=
  pass_blockLocal lasDecide_decideDef lasDecide_img hbl (defsDistinct_nodup hd)

theorem C14_pass_preserves_defsDistinct (decide : Option Instr → Instr → Subst → Option (Nat × Opd))
    (code : List Instr) (hd : defsDistinct code = true) : defsDistinct (pass decide code) = true :=
  nodup_defsDistinct (pass_defs_nodup decide (defsDistinct_nodup hd))

/-- A pass keeps exactly the label markers of its input; if every branch target of the input exists, so does every
branch target of the output. -/
theorem C14_pass_preserves_labels (decide : Option Instr → Instr → Subst → Option (Nat × Opd))
    (hdef : DecideDef decide) (code : List Instr) :
    (pass decide code).filterMap labelOf = code.filterMap labelOf ∧
      (targetsOK code = true → targetsOK (pass decide code) = true) :=
  ⟨pass_labels hdef code, pass_targetsOK hdef⟩

#print axioms C14_las_preserves_blockLocal
#print axioms C14_pass_preserves_defsDistinct
#print axioms C14_pass_preserves_labels

theorem C14_opt_preserves_checks (P : Program) (fn : Func)
    (h : (blockLocal [] fn.code && defsDistinct fn.code && labelsDistinct fn.code && targetsOK fn.code
      && callsOK fn P) = true) :
    (blockLocal [] (optFn fn).code && defsDistinct (optFn fn).code && labelsDistinct (optFn fn).code
      && targetsOK (optFn fn).code && callsOK (optFn fn) (optProgram P)) = true :=
  optFn_wfChecks (fn := fn) (P := P) h

#print axioms C14_opt_preserves_checks

theorem optOK_checks {fn : Func} {P : Program} (hok : optOK fn = true) (hl : labelsDistinct fn.code = true)
    (ht : targetsOK fn.code = true) (hc : callsOK fn P = true) : wfChecks fn P = true := by
  simp only [optOK, Bool.and_eq_true] at hok
  simp only [wfChecks, Bool.and_eq_true]
  exact ⟨⟨⟨⟨hok.1.1, hok.2⟩, hl⟩, ht⟩, hc⟩

theorem C14_unopt_wf (P : Program) (fn : Func) (_hfn : fn ∈ P.funcs)
    (hok : optOK fn = true) (hl : labelsDistinct fn.code = true) (ht : targetsOK fn.code = true)
    (hc : callsOK fn P = true) :
    WF fn P :=
  wf_of_wfChecks (optOK_checks hok hl ht hc)

#print axioms C14_unopt_wf

/-- The optimised function is well-formed in the optimised program; all hypotheses are about the UNOPTIMISED code.
(`fn ∈ P.funcs` is not used: calls are checked against `P` by `callsOK fn P`.) -/
theorem C14_opt_preserves_wf (P : Program) (fn : Func) (_hfn : fn ∈ P.funcs)
    (hok : optOK fn = true) (hl : labelsDistinct fn.code = true) (ht : targetsOK fn.code = true)
    (hc : callsOK fn P = true) :
    WF (optFn fn) (optProgram P) :=
  wf_of_wfChecks (optFn_wfChecks (optOK_checks hok hl ht hc))

#print axioms C14_opt_preserves_wf

theorem C14_optProgram_wf (P : Program)
    (h : ∀ fn ∈ P.funcs, optOK fn = true ∧ labelsDistinct fn.code = true ∧ targetsOK fn.code = true ∧
      callsOK fn P = true) :
    ∀ fn' ∈ (optProgram P).funcs, WF fn' (optProgram P) := by
  intro fn' hfn'
  simp only [optProgram, List.mem_map] at hfn'
  obtain ⟨fn, hfn, rfl⟩ := hfn'
  obtain ⟨hok, hl, ht, hc⟩ := h fn hfn
  exact C14_opt_preserves_wf P fn hfn hok hl ht hc

#print axioms C14_optProgram_wf

end Opt

/-! ## Non-vacuity: a loop block, a call, a folded cast, a forwarded load -/
namespace C14OptEx
open Opt WF
def i32 : ITy := .sc .int

/-- `dec(a) = a - int(1)` -/
def dec : Func := { name := "dec", params := [("a", i32)], ret := i32, code := [
  .label 0,
  .load 1 i32 .arg (.index 0),
  .cast 2 i32 (.cInt 1),
  .bin 3 (.s .sub) i32 (.ref 1) (.ref 2),
  .ret (some (.ref 3))] }

/-- `x = n; while (x) { x = dec(x); last = x; } return float(2)` -/
def main : Func := { name := "main", params := [("n", i32)], ret := .sc .float, code := [
  .label 0,
  .newVar 1 i32 "x",
  .load 2 i32 .arg (.index 0),
  .store .local (.name "x") (.ref 2),
  .br 10,
  .label 10,
  .load 3 i32 .local (.name "x"),
  .brc (.ref 3) 11 12,
  .label 11,
  .load 4 i32 .local (.name "x"),
  .call 5 i32 "dec" [.ref 4],
  .store .local (.name "x") (.ref 5),
  .load 6 i32 .local (.name "x"),
  .store .global (.name "last") (.ref 6),
  .br 10,
  .label 12,
  .cast 7 (.sc .float) (.cInt 2),
  .ret (some (.ref 7))] }

def P : Program := { funcs := [main, dec], globals := [("last", i32)] }

/-- the optimiser really changes `main`: the load `%6` is forwarded (its user now reads `%5`), the cast `%7` is folded -/
example : (optFn main).code = [
  .label 0,
  .newVar 1 i32 "x",
  .load 2 i32 .arg (.index 0),
  .store .local (.name "x") (.ref 2),
  .br 10,
  .label 10,
  .load 3 i32 .local (.name "x"),
  .brc (.ref 3) 11 12,
  .label 11,
  .load 4 i32 .local (.name "x"),
  .call 5 i32 "dec" [.ref 4],
  .store .local (.name "x") (.ref 5),
  .store .global (.name "last") (.ref 5),
  .br 10,
  .label 12,
  .ret (some (.cFlt (Float.ofInt 2)))] := by rfl

theorem main_optOK : optOK main = true := by decide +kernel
theorem main_checks : wfChecks main P = true := by decide +kernel
theorem dec_optOK : optOK dec = true := by decide +kernel
theorem dec_checks : wfChecks dec P = true := by decide +kernel

example : optOK main = true := main_optOK
example : labelsDistinct main.code = true := by decide
example : targetsOK main.code = true := by decide
example : callsOK main P = true := by decide
example : wfChecks main P = true := main_checks
example : wfChecks dec P = true := dec_checks
example : wfChecks (optFn main) (optProgram P) = true := by decide +kernel

theorem hyps : ∀ fn ∈ P.funcs, optOK fn = true ∧ labelsDistinct fn.code = true ∧ targetsOK fn.code = true ∧
    callsOK fn P = true := by
  have of_checks : ∀ {fn : Func}, optOK fn = true → wfChecks fn P = true →
      optOK fn = true ∧ labelsDistinct fn.code = true ∧ targetsOK fn.code = true ∧ callsOK fn P = true := by
    intro fn h1 h2
    simp only [wfChecks, Bool.and_eq_true] at h2
    exact ⟨h1, h2.1.1.2, h2.1.2, h2.2⟩
  intro fn hfn
  simp only [P, List.mem_cons, List.not_mem_nil, or_false] at hfn
  rcases hfn with rfl | rfl
  · exact of_checks main_optOK main_checks
  · exact of_checks dec_optOK dec_checks

theorem main_wf : WF main P :=
  have h := hyps main List.mem_cons_self
  C14_unopt_wf P main List.mem_cons_self h.1 h.2.1 h.2.2.1 h.2.2.2

theorem main_opt_wf : WF (optFn main) (optProgram P) :=
  have h := hyps main List.mem_cons_self
  C14_opt_preserves_wf P main List.mem_cons_self h.1 h.2.1 h.2.2.1 h.2.2.2

theorem all_opt_wf : ∀ fn' ∈ (optProgram P).funcs, WF fn' (optProgram P) := C14_optProgram_wf P hyps

#print axioms main_wf
#print axioms main_opt_wf
#print axioms all_opt_wf

/-- a real cyclic path of the optimised `main`: entry block, loop header, body, back edge, header again, body up to the
store to `last` (position 12), which reads `%5` after the forwarding -/
def cyc : List Nat := [0, 1, 2, 3, 4, 5, 6, 7, 8, 9, 10, 11, 12, 13, 5, 6, 7, 8, 9, 10, 11, 12]

/-- `definedOnAllPaths` instantiated on it: `%5` is defined at an earlier index of the path -/
example : ∃ k d, k + 1 < cyc.length ∧ cyc[k]? = some d ∧ defAt (optFn main).code d = some 5 :=
  main_opt_wf.definedOnAllPaths cyc 12 (.store .global (.name "last") (.ref 5)) 5 rfl
    (by simp only [cyc, IsPath]; decide +kernel) rfl (by rfl) (by decide)

/-- cross-check with the independent certificate checker of `Props/C14.lean` on the same code -/
example : wfCheck main P = true := by decide +kernel
example : wfCheck (optFn main) (optProgram P) = true := by decide +kernel

/-- `%3` is used in a block that does not define it -/
def badCross : Func := { name := "badCross", params := [], ret := i32, code := [
  .label 0, .cast 3 i32 (.cInt 1), .br 1, .label 1, .ret (some (.ref 3))] }
example : blockLocal [] badCross.code = false := by rfl

def badDup : Func := { name := "badDup", params := [], ret := i32, code := [
  .label 0, .cast 3 i32 (.cInt 1), .br 1, .label 1, .cast 3 i32 (.cInt 2), .ret (some (.ref 3))] }
example : defsDistinct badDup.code = false := by rfl

def badLabels : Func := { name := "badLabels", params := [], ret := i32, code := [
  .label 0, .br 2, .label 0, .ret none] }
example : labelsDistinct badLabels.code = false := by rfl
example : targetsOK badLabels.code = false := by rfl

def badCall : Func := { name := "badCall", params := [], ret := i32, code := [
  .label 0, .call 1 i32 "dec" [], .call 2 i32 "nope" [], .ret none] }
example : callsOK badCall P = false := by rfl

/-- Block-locality is sufficient, not necessary: the diamond of `Props/C14.lean` reads `%1` (defined in the entry block)
in three other blocks; it is well-formed (certificate checker) but not block-local. -/
example : WF Nsl.WF.Ex.fDiamond Nsl.WF.Ex.prog ∧ blockLocal [] Nsl.WF.Ex.fDiamond.code = false :=
  ⟨wfCheck_sound _ _ Nsl.WF.fDiamond_ok, by rfl⟩

end C14OptEx
end Nsl
