import Nsl.Proofs.WF
import Nsl.Proofs.InstrViews
/-!
# C14 – well-formedness of compiled IR: the certificate checker is sound

`wfCheck fn P = true` implies the declarative `WF fn P` (unique definitions, unique and existing
branch targets, calls resolve with matching arity, every used reference is defined earlier on
every control-flow path from the entry).  The proof of the path property is `path_inv`, an
induction over the path that only uses the edge-wise conditions re-verified by the checker; it is
independent of the (untrusted) data-flow analysis `computeIn`.
-/
namespace Nsl.WF

theorem wfCheck_sound (fn : Func) (P : Program) (h : wfCheck fn P = true) : WF fn P := by
  have h0 : wfErr fn P = none := by
    simpa [wfCheck] using h
  unfold wfErr at h0
  obtain ⟨hdup, h0⟩ := orElse_none h0
  obtain ⟨hlab, h0⟩ := orElse_none h0
  obtain ⟨htgt, h0⟩ := orElse_none h0
  obtain ⟨hcall, h0⟩ := orElse_none h0
  obtain ⟨hentry, h0⟩ := orElse_none h0
  obtain ⟨huse, hedge⟩ := orElse_none h0
  have hdup' : firstDup (fn.code.filterMap defOf) = none := by simpa using hdup
  have hlab' : firstDup (fn.code.filterMap labelOf) = none := by simpa using hlab
  rw [List.findSome?_eq_none_iff] at htgt hcall huse hedge
  have hrange : ∀ {i : Nat} {ins : Instr}, fn.code[i]? = some ins →
      i ∈ List.range fn.code.length := fun hi =>
    List.mem_range.2 (List.getElem?_eq_some_iff.1 hi).1
  refine ⟨?_, ?_, ?_, ?_, ?_⟩
  · -- (a)
    exact nodup_filterMap_idx defOf fn.code (firstDup_eq_none_iff.1 hdup')
  · -- (b1)
    intro i j l hi hj
    exact nodup_filterMap_idx labelOf fn.code (firstDup_eq_none_iff.1 hlab') i j _ _ l hi hj rfl rfl
  · -- (b2)
    intro i ins l hi hl
    obtain ⟨p, hp⟩ := labelErr_none (htgt i (hrange hi)) hi hl
    exact ⟨p, hp, Opt.labelPos_some hp⟩
  · -- (c)
    intro i dst ty f args hi
    exact callErr_none (hcall i (hrange hi)) hi
  · -- (d)
    intro p q ins r hhead hpath hlast hq hr
    let inn : Nat → List Nat := inAt (computeIn fn.code)
    have hedge' : ∀ pc s, s ∈ succs fn.code pc → ∀ r ∈ inn s, r ∈ inn pc ∨ defAt fn.code pc = some r :=
      fun pc s hs => edgeErr_none (hedge pc (List.mem_range.2 (succs_in_range hs))) hs
    have hentry' : ∀ r ∈ inn 0, False := by
      intro r' hr'
      by_cases he : (inAt (computeIn fn.code) 0).isEmpty = true
      · have : inAt (computeIn fn.code) 0 = [] := by simpa using he
        simp [inn, this] at hr'
      · rw [if_neg he] at hentry
        cases hentry
    have huse' : r ∈ inn q := useErr_none (huse q (hrange hq)) hq hr
    cases p with
    | nil => simp at hhead
    | cons a p' =>
      have ha : a = 0 := by simpa using hhead
      subst ha
      rcases path_inv fn.code inn hedge' p' 0 (fun _ => False) hpath hentry' q hlast r huse'
        with h | ⟨k, d, hk, hget, hdef⟩
      · exact h.elim
      · exact ⟨k, d, by simpa using hk, hget, hdef⟩

#print axioms wfCheck_sound

theorem wfReport_ok_iff (fn : Func) (P : Program) : wfReport fn P = "ok" ↔ wfCheck fn P = true := by
  unfold wfReport wfCheck
  cases h : wfErr fn P with
  | none => simp
  | some e => simpa using e.msg_ne_ok

#print axioms wfReport_ok_iff

theorem wfReport_sound (fn : Func) (P : Program) (h : wfReport fn P = "ok") : WF fn P :=
  wfCheck_sound fn P ((wfReport_ok_iff fn P).1 h)

#print axioms wfReport_sound

/-! ## Non-vacuity: the checker accepts ordinary code and rejects each kind of defect -/

namespace Nsl.WF.Ex
def i32 : ITy := .sc .int
def mk (name : String) (np : Nat) (code : List Instr) : Func :=
  ⟨name, (List.range np).map (fun i => ("a" ++ toString i, i32)), i32, code⟩

/-- (1) straight-line code: `return a0 + a1` -/
def fStraight := mk "add" 2 [
  .label 0,
  .load 1 i32 .arg (.index 0),
  .load 2 i32 .arg (.index 1),
  .bin 3 (.s .add) i32 (.ref 1) (.ref 2),
  .ret (some (.ref 3))]

/-- (2) if/else diamond; both arms define different temporaries, the join only uses `%1`. -/
def fDiamond := mk "sel" 1 [
  .label 0,
  .load 1 i32 .arg (.index 0),
  .newVar 2 i32 "r",
  .bin 3 (.s .gt) i32 (.ref 1) (.cInt 0),
  .brc (.ref 3) 1 2,
  .label 1,
  .bin 4 (.s .add) i32 (.ref 1) (.cInt 1),
  .store .local (.name "r") (.ref 4),
  .br 3,
  .label 2,
  .bin 5 (.s .sub) i32 (.ref 1) (.cInt 1),
  .store .local (.name "r") (.ref 5),
  .br 3,
  .label 3,
  .load 6 i32 .local (.name "r"),
  .bin 7 (.s .mul) i32 (.ref 6) (.ref 1),
  .ret (some (.ref 7))]

/-- (3) while loop with a back edge. -/
def fLoop := mk "sum" 1 [
  .label 0,
  .load 1 i32 .arg (.index 0),
  .newVar 2 i32 "i",
  .store .local (.name "i") (.cInt 0),
  .br 1,
  .label 1,                                  -- loop header
  .load 3 i32 .local (.name "i"),
  .bin 4 (.s .lt) i32 (.ref 3) (.ref 1),
  .brc (.ref 4) 2 3,
  .label 2,                                  -- body
  .bin 5 (.s .add) i32 (.ref 3) (.cInt 1),
  .store .local (.name "i") (.ref 5),
  .br 1,                                     -- back edge
  .label 3,
  .ret (some (.ref 3))]

/-- (4) a function calling another. -/
def fCaller := mk "twice" 1 [
  .label 0,
  .load 1 i32 .arg (.index 0),
  .call 2 i32 "add" [.ref 1, .ref 1],
  .call 3 i32 "sum" [.ref 2],
  .ret (some (.ref 3))]

def prog : Program := ⟨[fStraight, fDiamond, fLoop, fCaller], []⟩

/-- use before def on one path only -/
def bOnePath := mk "bad1" 1 [
  .label 0,
  .load 1 i32 .arg (.index 0),
  .brc (.ref 1) 1 2,
  .label 1,
  .bin 2 (.s .add) i32 (.ref 1) (.cInt 1),
  .br 2,
  .label 2,
  .ret (some (.ref 2))]
def bDup := mk "bad2" 1 [
  .label 0,
  .load 1 i32 .arg (.index 0),
  .bin 1 (.s .add) i32 (.ref 1) (.cInt 1),
  .ret (some (.ref 1))]
def bLabel := mk "bad3" 1 [
  .label 0,
  .load 1 i32 .arg (.index 0),
  .brc (.ref 1) 1 5,
  .label 1,
  .ret (some (.ref 1))]
def bArity := mk "bad4" 1 [
  .label 0,
  .load 1 i32 .arg (.index 0),
  .call 2 i32 "add" [.ref 1],
  .ret (some (.ref 2))]
def bUnknown := mk "bad5" 1 [
  .label 0,
  .call 2 i32 "nope" [],
  .ret (some (.ref 2))]
def bUndef := mk "bad6" 1 [
  .label 0,
  .load 1 i32 .arg (.index 0),
  .bin 2 (.s .add) i32 (.ref 1) (.ref 9),
  .ret (some (.ref 2))]
/-- loop: value defined in body used in header (only defined on the back-edge path) -/
def bLoop := mk "bad7" 1 [
  .label 0,
  .load 1 i32 .arg (.index 0),
  .br 1,
  .label 1,
  .bin 4 (.s .lt) i32 (.ref 5) (.ref 1),
  .brc (.ref 4) 2 3,
  .label 2,
  .bin 5 (.s .add) i32 (.ref 1) (.cInt 1),
  .br 1,
  .label 3,
  .ret none]
def bDupLabel := mk "bad8" 1 [
  .label 0,
  .br 1,
  .label 1,
  .br 1,
  .label 1,
  .ret none]
end Nsl.WF.Ex

namespace Nsl.WF
open Ex

theorem fDiamond_ok : wfCheck fDiamond prog = true := by decide +kernel
theorem fLoop_ok : wfCheck fLoop prog = true := by decide +kernel
theorem bOnePath_report : wfReport bOnePath prog = "use-before-def pc=7 ref=2" := by decide +kernel

example : wfCheck fStraight prog = true := by decide +kernel
example : wfCheck fDiamond prog = true := fDiamond_ok
example : wfCheck fLoop prog = true := fLoop_ok
example : wfCheck fCaller prog = true := by decide +kernel
example : WF fLoop prog := wfCheck_sound _ _ fLoop_ok

example : wfCheck bOnePath prog = false :=
  Bool.eq_false_iff.2 fun h => absurd (((wfReport_ok_iff _ _).2 h).symm.trans bOnePath_report) (by decide +kernel)
example : wfReport bOnePath prog = "use-before-def pc=7 ref=2" := bOnePath_report
example : wfReport bDup prog = "dup-def ref=1" := by decide +kernel
example : wfReport bLabel prog = "missing-label 5 pc=2" := by decide +kernel
example : wfReport bArity prog = "bad-call add pc=2 params=2 args=1" := by decide +kernel
example : wfReport bUnknown prog = "bad-call nope pc=1 unknown-function" := by decide +kernel
example : wfReport bUndef prog = "use-before-def pc=2 ref=9" := by decide +kernel
example : wfReport bLoop prog = "use-before-def pc=4 ref=5" := by decide +kernel
example : wfReport bDupLabel prog = "dup-label 1" := by decide +kernel

/-- The rejected one-path example really is ill-formed (so rejecting it is not over-caution):
along the path `0,1,2 → 6,7` (the `else` edge) `%2` is never defined. -/
example : ¬ WF bOnePath prog := by
  intro h
  obtain ⟨k, d, hk, hget, hdef⟩ :=
    h.definedOnAllPaths [0, 1, 2, 6, 7] 7 (.ret (some (.ref 2))) 2 rfl
      (by simp only [IsPath]; decide +kernel) rfl rfl (by decide)
  have hk' : k < 4 := by simp at hk; omega
  have : k = 0 ∨ k = 1 ∨ k = 2 ∨ k = 3 := by omega
  rcases this with rfl | rfl | rfl | rfl <;>
    (simp at hget; subst hget; revert hdef; decide)

end Nsl.WF
