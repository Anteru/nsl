import Nsl.Model.Types
import Nsl.Proofs.Types

/-!
# C09 — typing of binary operators

`resolveBinary` mirrors `ResolveBinaryExpressionType` (`nsl/types.py`);
`Spec.binary` is the specification written from the English statement.
Everything is proved for all sizes ≥ 1, and without a `WF` hypothesis also for a size 0.
-/

namespace Nsl.Types
open Spec

/-- The additive-like operators `+ - % && ||`. -/
abbrev additiveOps : List BOp := [.add, .sub, .mod, .land, .lor]

/-- The six comparisons `< <= > >= == !=`. -/
abbrev comparisonOps : List BOp := [.lt, .le, .gt, .ge, .eq, .ne]

theorem classify_of_mem_additiveOps : ∀ o ∈ additiveOps, classify o = .additive := by decide

/-! ## 1. Mirror = specification -/

theorem resolveBinary_eq_spec (o : BOp) (l r : Ty) (hl : WF l) (hr : WF r)
    (hm : ¬ (isComparison o ∧ l.isMat ∧ r.isMat)) :
    resolveBinary o l r = Spec.binary o l r :=
  -- `hm` is not needed: the specification rejects two matrices as well
  have _ := hm
  resolveBinary_eq_binary o hl hr
#print axioms resolveBinary_eq_spec

/-- The excluded case: the code rejects comparisons with a matrix on the left (hence of two
matrices), whatever the sizes. -/
theorem cmp_mat_rejected (o : BOp) (hc : isComparison o) (l r : Ty) (hl : l.isMat) :
    resolveBinary o l r = none := by
  simp [resolveBinary, hc, hl]
#print axioms cmp_mat_rejected

/-! ## 2. `op.IsComparison` selects exactly the six comparisons; `wider` is a maximum -/

theorem isComparison_exact (o : BOp) : isComparison o = true ↔ o ∈ comparisonOps := by
  cases o <;> decide
#print axioms isComparison_exact

/-- `wider` is the maximum for the order float > int > uint. -/
theorem wider_is_max (a b : Comp) :
    (wider a b = a ∨ wider a b = b) ∧ rank a ≤ rank (wider a b) ∧ rank b ≤ rank (wider a b) := by
  cases a <;> cases b <;> decide
#print axioms wider_is_max

/-! ## 3. Readable corollaries -/

/-- Two scalars: every operator is accepted; comparisons give `int`, all others the wider
component type; both operands are converted to the wider component type. -/
theorem scalar_promote (o : BOp) (a b : Comp) :
    resolveBinary o (.scalar a) (.scalar b) =
      some (.scalar (if isComparison o then .int else wider a b),
            .scalar (wider a b), .scalar (wider a b)) := by
  rw [resolveBinary_eq_binary o rfl rfl, ← resultComp_classify]
  unfold binary
  cases classify o <;> rfl
#print axioms scalar_promote

/-- Comparison of two vectors: equal sizes give an int vector of that size, different sizes are
rejected. -/
theorem cmp_vec (o : BOp) (hc : isComparison o) (a b : Comp) (n m : Nat)
    (hn : 1 ≤ n) (hm : 1 ≤ m) :
    resolveBinary o (.vec a n) (.vec b m) =
      if n = m then some (.vec .int n, .vec (wider a b) n, .vec (wider a b) m) else none := by
  rw [resolveBinary_eq_binary o (WF_vec.2 hn) (WF_vec.2 hm)]
  simp only [binary, (isComparison_iff_classify o).1 hc, shapeOf, resultShape, compOf, resultComp]
  split <;> simp [build]
#print axioms cmp_vec

/-- Comparison of operands of different kinds (scalar / vector / matrix) is rejected. -/
theorem cmp_mixed_kinds_rejected (o : BOp) (hc : isComparison o) (l r : Ty)
    (hk : l.kind ≠ r.kind) : resolveBinary o l r = none := by
  simp [resolveBinary, hc, hk]
#print axioms cmp_mixed_kinds_rejected

/-- `+ - % && ||` on operands of identical shape: accepted, result and both operands have that
shape and the wider component type. -/
theorem additive_same_shape (o : BOp) (ho : o ∈ additiveOps) (l r : Ty) (hl : WF l) (hr : WF r)
    (hs : shapeOf l = shapeOf r) :
    resolveBinary o l r =
      some (build (wider (compOf l) (compOf r)) (shapeOf l),
            build (wider (compOf l) (compOf r)) (shapeOf l),
            build (wider (compOf l) (compOf r)) (shapeOf l)) := by
  rw [resolveBinary_eq_binary o hl hr]
  simp [binary, classify_of_mem_additiveOps o ho, resultShape_additive, ← hs, resultComp]
#print axioms additive_same_shape

theorem additive_vec (o : BOp) (ho : o ∈ additiveOps) (a b : Comp) (n : Nat) (hn : 1 ≤ n) :
    resolveBinary o (.vec a n) (.vec b n) =
      some (.vec (wider a b) n, .vec (wider a b) n, .vec (wider a b) n) :=
  additive_same_shape o ho _ _ (WF_vec.2 hn) (WF_vec.2 hn) rfl
#print axioms additive_vec

theorem additive_mat (o : BOp) (ho : o ∈ additiveOps) (a b : Comp) (r k : Nat)
    (hr : 1 ≤ r) (hk : 1 ≤ k) :
    resolveBinary o (.mat a r k) (.mat b r k) =
      some (.mat (wider a b) r k, .mat (wider a b) r k, .mat (wider a b) r k) :=
  additive_same_shape o ho _ _ (WF_mat.2 ⟨hr, hk⟩) (WF_mat.2 ⟨hr, hk⟩) rfl
#print axioms additive_mat

/-- `+ - % && ||` on operands of different shapes (scalar with vector, vectors of different
size, vector with matrix, matrices of different size, …) is rejected. -/
theorem additive_shape_mismatch_rejected (o : BOp) (ho : o ∈ additiveOps) (l r : Ty)
    (hl : WF l) (hr : WF r) (hs : shapeOf l ≠ shapeOf r) :
    resolveBinary o l r = none := by
  rw [resolveBinary_eq_binary o hl hr]
  simp [binary, classify_of_mem_additiveOps o ho, resultShape_additive, hs]
#print axioms additive_shape_mismatch_rejected

/-- `/` with a scalar right operand is accepted under any left shape; the result has the
shape of the left operand. -/
theorem div_scalar_right (l : Ty) (hl : WF l) (b : Comp) :
    resolveBinary .div l (.scalar b) =
      some (build (wider (compOf l) b) (shapeOf l),
            build (wider (compOf l) b) (shapeOf l),
            .scalar (wider (compOf l) b)) := by
  rw [resolveBinary_eq_binary _ hl rfl]
  cases l <;> rfl
#print axioms div_scalar_right

/-- `/` with a vector or matrix on the right is rejected. -/
theorem div_nonscalar_right_rejected (l r : Ty) (hr : ¬ r.isScalar) :
    resolveBinary .div l r = none := by
  simp [resolveBinary, isComparison, opValue, hr]
#print axioms div_nonscalar_right_rejected

/-- `*` takes a scalar on either side; the result has the shape of the other operand. -/
theorem mul_scalar_either_side (t : Ty) (ht : WF t) (c : Comp) :
    resolveBinary .mul (.scalar c) t =
        some (build (wider c (compOf t)) (shapeOf t),
              .scalar (wider c (compOf t)),
              build (wider c (compOf t)) (shapeOf t)) ∧
    resolveBinary .mul t (.scalar c) =
        some (build (wider (compOf t) c) (shapeOf t),
              build (wider (compOf t) c) (shapeOf t),
              .scalar (wider (compOf t) c)) := by
  rw [resolveBinary_eq_binary _ rfl ht, resolveBinary_eq_binary _ ht rfl]
  cases t <;> exact ⟨rfl, rfl⟩
#print axioms mul_scalar_either_side

/-- Matrix times matrix / matrix times vector: accepted iff the inner dimensions agree; the
result is shaped rows(left) × columns(right), a single column being a vector. -/
theorem mul_mat_inner (a b : Comp) (r k : Nat) (hr : 1 ≤ r) (hk : 1 ≤ k) :
    (∀ k' c, 1 ≤ k' → 1 ≤ c →
      resolveBinary .mul (.mat a r k) (.mat b k' c) =
        if k = k' then
          some (if c = 1 then .vec (wider a b) r else .mat (wider a b) r c,
                .mat (wider a b) r k, .mat (wider a b) k' c)
        else none) ∧
    (∀ n, 1 ≤ n →
      resolveBinary .mul (.mat a r k) (.vec b n) =
        if k = n then some (.vec (wider a b) r, .mat (wider a b) r k, .vec (wider a b) n)
        else none) := by
  refine ⟨fun k' c hk' hc => ?_, fun n hn => ?_⟩
  · rw [resolveBinary_eq_binary _ (WF_mat.2 ⟨hr, hk⟩) (WF_mat.2 ⟨hk', hc⟩)]
    simp only [binary, classify, shapeOf, resultShape, compOf, resultComp, productShape]
    by_cases h1 : k = k' <;> by_cases h2 : c = 1 <;> simp [build, h1, h2]
  · rw [resolveBinary_eq_binary _ (WF_mat.2 ⟨hr, hk⟩) (WF_vec.2 hn)]
    simp only [binary, classify, shapeOf, resultShape, compOf, resultComp, productShape]
    split <;> simp [build]
#print axioms mul_mat_inner

/-- Vector times vector and vector times matrix are rejected (also for 1-component vectors). -/
theorem mul_vec_left_rejected (a : Comp) (n : Nat) (r : Ty) (hr : ¬ r.isScalar) :
    resolveBinary .mul (.vec a n) r = none := by
  cases r <;> simp [Ty.isScalar] at hr <;>
    simp [resolveBinary, isComparison, opValue, Ty.isScalar, Ty.isMat]
#print axioms mul_vec_left_rejected

/-- Accepted combinations yield well-formed types. -/
theorem result_wf (o : BOp) (l r : Ty) (hl : WF l) (hr : WF r) (res lt rt : Ty)
    (h : resolveBinary o l r = some (res, lt, rt)) : WF res ∧ WF lt ∧ WF rt := by
  rw [resolveBinary_eq_binary o hl hr] at h
  exact binary_wf hl hr h
#print axioms result_wf

/-- Accepted combinations: each operand keeps its own shape and is converted to the common
(wider) component type; the result has that component type, except `int` for comparisons.
(Ill-formed operands are rejected, or are the two identical operands of `+ - % && ||`, on which
the specification says the same.) -/
theorem operands_converted (o : BOp) (l r : Ty) (res lt rt : Ty)
    (h : resolveBinary o l r = some (res, lt, rt)) :
    lt = build (wider (compOf l) (compOf r)) (shapeOf l) ∧
    rt = build (wider (compOf l) (compOf r)) (shapeOf r) ∧
    compOf res = (if isComparison o then .int else wider (compOf l) (compOf r)) := by
  rw [resolveBinary_eq_binary_or_none, Option.ite_none_right_eq_some] at h
  exact operands_of_binary_eq_some h.2
#print axioms operands_converted

/-! ## 4. Non-vacuity: concrete instances (all by evaluation) -/

section Examples
open Comp Ty BOp

-- hypotheses of `resolveBinary_eq_spec` are satisfiable, also for a comparison
example : WF (mat float 3 3) ∧ WF (vec float 3) ∧
    ¬ (isComparison mul ∧ (mat float 3 3).isMat ∧ (vec float 3).isMat) := by decide +kernel
example : WF (vec int 3) ∧ WF (vec float 3) ∧
    ¬ (isComparison lt ∧ (vec int 3).isMat ∧ (vec float 3).isMat) := by decide +kernel
example : WF (mat float 2 2) ∧ WF (mat float 2 2) ∧
    ¬ (isComparison add ∧ (mat float 2 2).isMat ∧ (mat float 2 2).isMat) := by decide +kernel
example : isComparison ge = true ∧ (scalar int).kind ≠ (vec int 3).kind := by decide +kernel
example : isComparison eq = true ∧ (mat float 2 2).isMat = true := by decide +kernel
example : mod ∈ additiveOps ∧ WF (mat int 2 3) ∧ WF (mat uint 2 3) ∧
    shapeOf (mat int 2 3) = shapeOf (mat uint 2 3) := by decide +kernel
example : land ∈ additiveOps ∧ WF (vec int 2) ∧ WF (vec int 3) ∧
    shapeOf (vec int 2) ≠ shapeOf (vec int 3) := by decide +kernel
example : ¬ (vec float 3).isScalar := by decide +kernel

example : resolveBinary mul (mat float 3 3) (vec float 3) =
    some (vec float 3, mat float 3 3, vec float 3) := rfl
-- int2x3 * float3x4 : float2x4, operands converted to float
example : resolveBinary mul (mat int 2 3) (mat float 3 4) =
    some (mat float 2 4, mat float 2 3, mat float 3 4) := rfl
-- a one-column product is a vector: float3x3 * float3x1 : float3
example : resolveBinary mul (mat float 3 3) (mat float 3 1) =
    some (vec float 3, mat float 3 3, mat float 3 1) := rfl
example : resolveBinary mul (mat float 3 4) (vec float 3) = none := rfl
example : resolveBinary mul (mat float 2 3) (mat float 2 3) = none := rfl
-- never vector * vector, vector * matrix (also 1-component)
example : resolveBinary mul (vec float 3) (vec float 3) = none := rfl
example : resolveBinary mul (vec float 1) (vec float 1) = none := rfl
example : resolveBinary mul (vec float 3) (mat float 3 3) = none := rfl
example : resolveBinary mul (vec float 1) (mat float 1 3) = none := rfl
example : resolveBinary mul (scalar int) (mat float 3 4) =
    some (mat float 3 4, scalar float, mat float 3 4) := rfl
example : resolveBinary mul (vec uint 7) (scalar int) =
    some (vec int 7, vec int 7, scalar int) := rfl
example : resolveBinary add (vec int 2) (vec float 2) =
    some (vec float 2, vec float 2, vec float 2) := rfl
example : resolveBinary lor (mat uint 2 2) (mat int 2 2) =
    some (mat int 2 2, mat int 2 2, mat int 2 2) := rfl
example : resolveBinary add (vec int 2) (vec int 3) = none := rfl
example : resolveBinary sub (scalar float) (vec float 3) = none := rfl
example : resolveBinary mod (vec float 1) (scalar float) = none := rfl
example : resolveBinary add (mat float 2 3) (mat float 3 2) = none := rfl
example : resolveBinary div (vec float 4) (scalar int) =
    some (vec float 4, vec float 4, scalar float) := rfl
example : resolveBinary div (mat int 2 3) (scalar uint) =
    some (mat int 2 3, mat int 2 3, scalar int) := rfl
example : resolveBinary div (scalar float) (vec float 3) = none := rfl
example : resolveBinary div (vec float 3) (vec float 3) = none := rfl
-- int3 < float3 : int3, operands compared as float3
example : resolveBinary lt (vec int 3) (vec float 3) =
    some (vec int 3, vec float 3, vec float 3) := rfl
example : resolveBinary eq (vec float 3) (vec float 4) = none := rfl
example : resolveBinary ne (mat float 3 3) (mat float 3 3) = none := rfl
example : resolveBinary le (scalar float) (vec float 1) = none := rfl
-- uint + int : int ; `>` is a comparison (value 200, the boundary of `IsComparison`)
example : resolveBinary add (scalar uint) (scalar int) =
    some (scalar int, scalar int, scalar int) := rfl
example : resolveBinary gt (scalar uint) (scalar float) =
    some (scalar int, scalar float, scalar float) := rfl
example : resolveBinary gt (vec float 2) (vec float 2) =
    some (vec int 2, vec float 2, vec float 2) := rfl
example : resolveBinary land (scalar uint) (scalar uint) =
    some (scalar uint, scalar uint, scalar uint) := rfl
-- the specification gives the same answers
example : Spec.binary mul (mat float 3 3) (vec float 3) =
    some (vec float 3, mat float 3 3, vec float 3) := rfl
example : Spec.binary mul (vec float 3) (vec float 3) = none := rfl
example : resolveBinary mul (mat float 100 70) (mat int 70 9) =
    some (mat float 100 9, mat float 100 70, mat float 70 9) := by decide +kernel

end Examples

end Nsl.Types
