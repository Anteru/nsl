import Nsl.Gen.OpMaps
import Nsl.Gen.Flags
import Nsl.Model.Lower
/-!
# Table obligations for C01/C02/C05 (opcode selection, pass pipeline)

Regenerated tables (`harness/extract.py`) are checked by `decide`; a change to the table in the Python
breaks the build of this file.
-/
namespace Nsl.GenObl
open Nsl.Gen

def bopOfStr : String → Option Core.BOp
  | "+" => some .add | "-" => some .sub | "*" => some .mul | "/" => some .div | "%" => some .mod
  | "<" => some .lt | "<=" => some .le | ">" => some .gt | ">=" => some .ge | "==" => some .eq
  | "!=" => some .ne | "&&" => some .land | "||" => some .lor | _ => none

def sopName : SOp → String
  | .add => "add" | .sub => "sub" | .mul => "mul" | .div => "div" | .mod => "mod"
  | .lgAnd => "lg_and" | .lgOr => "lg_or" | .gt => "cmp_gt" | .lt => "cmp_lt" | .le => "cmp_le"
  | .ge => "cmp_ge" | .ne => "cmp_ne" | .eq => "cmp_eq"

def binOpName : BinOp → String
  | .s o => sopName o
  | .v o => "vector_" ++ sopName o
  | .vMulS => "vector_mul_scalar" | .vDivS => "vector_div_scalar"
  | .mMulM => "matrix_mul_matrix" | .mMulV => "matrix_mul_vector" | .invalid => "invalid"

def shapeTypes : String → Option (ITy × ITy × ITy)
  | "s" => some (.sc .int, .sc .int, .sc .int)
  | "v" => some (.vec .int 3, .vec .int 3, .vec .int 3)
  | "vs" => some (.vec .int 3, .vec .int 3, .sc .int)
  | "sv" => some (.vec .int 3, .sc .int, .vec .int 3)
  | _ => none

def fromOperationRow (r : String × String × String × Bool) : Bool :=
  match bopOfStr r.1, shapeTypes r.2.1 with
  | some op, some (rt, t1, t2) =>
    binOpName (Lower.fromOperation op rt t1 t2).1 == r.2.2.1 &&
      (Lower.fromOperation op rt t1 t2).2 == r.2.2.2
  | _, _ => false

/-- The model's `Lower.fromOperation` selects the opcode (and operand order) that the Python
`BinaryInstruction.FromOperation` selects, on every operator and shape class. -/
theorem c01_fromOperation_table : ∀ r ∈ OpMaps.fromOperation, fromOperationRow r = true := by
  decide +kernel

theorem c01_fromOperation_table_complete : OpMaps.fromOperation.length = 52 := by decide +kernel

/-- Exactly the two `optimize-*` passes carry `IsOptimization`. -/
theorem c02_optimization_flags :
    Flags.irPasses =
      [("rewrite-function-arg-accessor", false), ("optimize-constant-cast", true),
       ("optimize-load-after-store", true), ("print-linear-ir", false)] := by
  decide +kernel

/-- The type pass, the six validators and the three rewriting passes are all in the list of AST
passes (the passes that come before lowering). -/
theorem c05_validators_run :
    ∀ n ∈ ["ComputeTypesPass", "validate-array-access-type", "validate-array-out-of-bounds-access",
           "validate-exported-functions", "validate-flow-statements", "validate-swizzle-mask",
           "validate-variable-names", "add-implicit-casts", "rewrite-assign-equal", "update-locations"],
      n ∈ Flags.astPasses := by
  decide +kernel

end Nsl.GenObl

#print axioms Nsl.GenObl.c01_fromOperation_table
#print axioms Nsl.GenObl.c01_fromOperation_table_complete
#print axioms Nsl.GenObl.c02_optimization_flags
#print axioms Nsl.GenObl.c05_validators_run
