import Nsl.Model.Overload
import Nsl.Proofs.OverloadAgg

/-!
# C10 — overload resolution

"A call resolves to a declared function of that name only if the argument count matches and
every argument is convertible to the corresponding parameter; among those candidates the one
needing the fewest conversions is chosen and is the function that runs.  If no candidate is
viable, the name is unknown, or the best score is shared, the program is rejected; the outcome
does not depend on the order in which the overloads are declared."

`findInScope` / `findFunction` mirror the Python `Scope.FindFunction`;
`Spec.best` / `Spec.resolve` are written from the text above.
-/

namespace Nsl.Overload
open Nsl.Types

/-- `none` (defer to the parent) exactly when no function of that name is registered. -/
theorem findInScope_eq_none_iff (sc : Scope) (name : String) (args : List Ty) :
    findInScope sc name args = none ↔ ∀ s ∈ sc, s.name ≠ name := by
  rw [findInScope_eq_rank]; exact Rank.findInScope_eq_none_iff sc name
#print axioms findInScope_eq_none_iff

theorem findInScope_some_eq_spec (sc : Scope) (name : String) (args : List Ty)
    (h : ∃ s ∈ sc, s.name = name) :
    findInScope sc name args = some (Spec.best sc name args) := by
  rw [findInScope_eq_rank, Spec.best_eq_rank]; exact Rank.findInScope_of_mem (laws args) h
#print axioms findInScope_some_eq_spec

theorem findInScope_eq_spec (sc : Scope) (name : String) (args : List Ty) :
    (findInScope sc name args).getD (.error .unknown) = Spec.best sc name args := by
  rw [findInScope_eq_rank, Spec.best_eq_rank, Rank.findInScope_eq (laws args)]
  unfold Rank.best
  split <;> rfl
#print axioms findInScope_eq_spec

theorem findFunction_eq_spec (chain : List Scope) (name : String) (args : List Ty) :
    findFunction chain name args = Spec.resolve chain name args := by
  rw [findFunction_eq_rank, Spec.resolve_eq_rank]
  exact Rank.findFunction_eq_resolve (laws args) chain name
#print axioms findFunction_eq_spec

theorem best_perm (sc₁ sc₂ : Scope) (h : sc₁.Perm sc₂) (name : String) (args : List Ty) :
    Spec.best sc₁ name args = Spec.best sc₂ name args := by
  rw [Spec.best_eq_rank, Spec.best_eq_rank]; exact Rank.best_perm h name
#print axioms best_perm

theorem findInScope_perm (sc₁ sc₂ : Scope) (h : sc₁.Perm sc₂) (name : String) (args : List Ty) :
    findInScope sc₁ name args = findInScope sc₂ name args := by
  rw [findInScope_eq_rank, findInScope_eq_rank]; exact Rank.findInScope_perm (laws args) h name
#print axioms findInScope_perm

/-- Reordering the declarations inside every scope of the chain does not change the outcome. -/
theorem findFunction_perm (chain₁ chain₂ : List Scope) (hlen : chain₁.length = chain₂.length)
    (h : ∀ (k : Nat) (h₁ : k < chain₁.length) (h₂ : k < chain₂.length),
      (chain₁[k]'h₁).Perm (chain₂[k]'h₂))
    (name : String) (args : List Ty) :
    findFunction chain₁ name args = findFunction chain₂ name args := by
  rw [findFunction_eq_rank, findFunction_eq_rank]
  exact Rank.findFunction_perm (laws args) chain₁ chain₂ hlen h name
#print axioms findFunction_perm

theorem chosen_viable (chain : List Scope) (name : String) (args : List Ty) (s : Sig)
    (h : findFunction chain name args = .ok s) :
    Spec.viable s name args = true ∧ ∃ sc ∈ chain, s ∈ sc := by
  rw [findFunction_eq_rank] at h
  obtain ⟨pre, sc, post, rfl, -, hs, hv, -⟩ := (Rank.findFunction_eq_ok_iff (laws args)).mp h
  exact ⟨hv, sc, by simp, hs⟩
#print axioms chosen_viable

/-- The answering scope is the innermost one that declares the name; the chosen function is
declared exactly once in it, and every other viable candidate of that scope needs strictly more
conversions. -/
theorem chosen_minimal (chain : List Scope) (name : String) (args : List Ty) (s : Sig)
    (h : findFunction chain name args = .ok s) :
    ∃ pre sc post, chain = pre ++ sc :: post ∧
      (∀ sc' ∈ pre, ∀ t ∈ sc', t.name ≠ name) ∧
      s ∈ sc ∧ sc.count s = 1 ∧
      ∀ t ∈ sc, Spec.viable t name args = true → t ≠ s → Spec.cost s args < Spec.cost t args := by
  rw [findFunction_eq_rank] at h
  obtain ⟨pre, sc, post, hch, hpre, hs, -, hmin⟩ :=
    (Rank.findFunction_eq_ok_iff (laws args)).mp h
  exact ⟨pre, sc, post, hch, hpre, hs, hmin⟩
#print axioms chosen_minimal

theorem nonviable_never_chosen (chain : List Scope) (name : String) (args : List Ty) (s : Sig)
    (i : Nat) (a p : Ty) (ha : args[i]? = some a) (hp : s.params[i]? = some p)
    (hc : isCompatible a p = false) :
    findFunction chain name args ≠ .ok s := by
  intro h
  have hv := (chosen_viable chain name args s h).1
  have := viable_convertible hv ha hp
  rw [hc] at this; cases this
#print axioms nonviable_never_chosen

theorem wrong_arity_never_chosen (chain : List Scope) (name : String) (args : List Ty) (s : Sig)
    (hl : s.params.length ≠ args.length) :
    findFunction chain name args ≠ .ok s := by
  intro h
  have hv := (chosen_viable chain name args s h).1
  exact hl (viable_iff_forall.mp hv).2.1
#print axioms wrong_arity_never_chosen

/-- `Function.Match` without the test for a negative score: the plain sum of the per-argument
scores. -/
def matchSigSum (s : Sig) (args : List Ty) : Int :=
  if args.length ≠ s.params.length then -1
  else (List.zipWith matchTy args s.params).sum

/-- With the summing rule, `g(float2, float)` (declaration 1) is chosen for the call
`g(float, int)` although `float` is not convertible to `float2`: `-1 + 1 = 0` looks exact and
beats the correct `g(float, float)` (declaration 2, score `0 + 1 = 1`). -/
example :
    findInScopeWith matchSigSum
      [⟨"g", 1, [.vec .float 2, .scalar .float]⟩, ⟨"g", 2, [.scalar .float, .scalar .float]⟩]
      "g" [.scalar .float, .scalar .int]
    = some (.ok ⟨"g", 1, [.vec .float 2, .scalar .float]⟩) := by decide +kernel

/-- `matchSig` picks declaration 2 on the same input, in both declaration orders. -/
example :
    findInScope
      [⟨"g", 1, [.vec .float 2, .scalar .float]⟩, ⟨"g", 2, [.scalar .float, .scalar .float]⟩]
      "g" [.scalar .float, .scalar .int]
    = some (.ok ⟨"g", 2, [.scalar .float, .scalar .float]⟩) := by decide +kernel
example :
    findInScope
      [⟨"g", 2, [.scalar .float, .scalar .float]⟩, ⟨"g", 1, [.vec .float 2, .scalar .float]⟩]
      "g" [.scalar .float, .scalar .int]
    = some (.ok ⟨"g", 2, [.scalar .float, .scalar .float]⟩) := by decide +kernel

/-- The hypotheses of `nonviable_never_chosen` are satisfiable (argument 0 of that call against
parameter 0 of declaration 1). -/
example :
    ([Ty.scalar .float, .scalar .int])[0]? = some (.scalar .float) ∧
    (Sig.mk "g" 1 [.vec .float 2, .scalar .float]).params[0]? = some (.vec .float 2) ∧
    isCompatible (.scalar .float) (.vec .float 2) = false := by decide +kernel

theorem scope_defers (sc : Scope) (rest : List Scope) (name : String) (args : List Ty)
    (h : ∀ t ∈ sc, t.name ≠ name) :
    findFunction (sc :: rest) name args = findFunction rest name args := by
  rw [findFunction_eq_rank, findFunction_eq_rank]; exact Rank.findFunction_cons_of_absent rest h
#print axioms scope_defers

/-- Conversely a scope that declares the name answers, even with an error (shadowing). -/
theorem scope_answers (sc : Scope) (rest : List Scope) (name : String) (args : List Ty)
    (h : ∃ t ∈ sc, t.name = name) :
    findFunction (sc :: rest) name args = Spec.best sc name args := by
  rw [findFunction_eq_rank, Spec.best_eq_rank]
  exact Rank.findFunction_cons_of_mem (laws args) rest h
#print axioms scope_answers

/-- Completeness of the choice: in the innermost scope declaring the name, a viable declaration
that is declared once and needs strictly fewer conversions than every other viable declaration
of that scope is the one returned. -/
theorem unique_min_chosen (pre : List Scope) (sc : Scope) (post : List Scope) (name : String)
    (args : List Ty) (s : Sig)
    (hpre : ∀ sc' ∈ pre, ∀ t ∈ sc', t.name ≠ name)
    (hs : s ∈ sc) (hv : Spec.viable s name args = true) (hcount : sc.count s = 1)
    (hmin : ∀ t ∈ sc, Spec.viable t name args = true → t ≠ s →
      Spec.cost s args < Spec.cost t args) :
    findFunction (pre ++ sc :: post) name args = .ok s := by
  rw [findFunction_eq_rank]
  exact (Rank.findFunction_eq_ok_iff (laws args)).mpr
    ⟨pre, sc, post, rfl, hpre, hs, hv, hcount, hmin⟩
#print axioms unique_min_chosen

section Examples

private def f : Ty := .scalar .float
private def i : Ty := .scalar .int
private def u : Ty := .scalar .uint
private def f2 : Ty := .vec .float 2
private def i1 : Ty := .vec .int 1
private def m34 : Ty := .mat .float 3 4

private def sc0 : Scope :=
  [⟨"h", 1, [f, f]⟩, ⟨"g", 2, [f2, f]⟩, ⟨"h", 3, [i, i]⟩, ⟨"h", 4, [i, f]⟩, ⟨"k", 5, [m34]⟩,
   ⟨"h", 6, [f]⟩]

-- every outcome class occurs
example : findFunction [sc0] "h" [i, f] = .ok ⟨"h", 4, [i, f]⟩ := by decide +kernel         -- exact
example : findFunction [sc0] "h" [u, i] = .ok ⟨"h", 3, [i, i]⟩ := by decide +kernel         -- 1 conversion beats 2
example : findFunction [sc0] "h" [u, u] = .error .ambiguous := by decide +kernel            -- three at cost 2
example : findFunction [sc0] "h" [f2, f] = .error .noMatch := by decide +kernel             -- float2 ↛ scalar
example : findFunction [sc0] "h" [f, f, f] = .error .noMatch := by decide +kernel           -- arity
example : findFunction [sc0] "q" [f] = .error .unknown := by decide +kernel
example : findFunction [sc0] "h" [i1] = .ok ⟨"h", 6, [f]⟩ := by decide +kernel              -- int1 → float
example : findFunction [sc0] "k" [.mat .int 3 4] = .ok ⟨"k", 5, [m34]⟩ := by decide +kernel
example : findFunction [sc0] "k" [.mat .int 4 3] = .error .noMatch := by decide +kernel
-- identical parameter lists: ambiguous, whatever the return type
example : findFunction [[⟨"h", 1, [f]⟩, ⟨"h", 2, [f]⟩]] "h" [f] = .error .ambiguous := by decide +kernel

-- mirror and specification agree on these inputs without appeal to the theorem
example : Spec.best sc0 "h" [u, i] = .ok ⟨"h", 3, [i, i]⟩ := by decide +kernel
example : Spec.best sc0 "h" [u, u] = .error .ambiguous := by decide +kernel
example : Spec.cost ⟨"h", 3, [i, i]⟩ [u, i] = 1 ∧ Spec.cost ⟨"h", 4, [i, f]⟩ [u, i] = 2 ∧
    Spec.cost ⟨"h", 1, [f, f]⟩ [u, i] = 2 := by decide +kernel

-- a genuinely different declaration order (hypothesis of `best_perm` / `findInScope_perm`)
example : sc0.Perm sc0.reverse := List.reverse_perm sc0 |>.symm
example : sc0 ≠ sc0.reverse := by decide +kernel
example : findFunction [sc0.reverse] "h" [u, i] = .ok ⟨"h", 3, [i, i]⟩ := by decide +kernel

-- hypotheses of `chosen_viable` / `chosen_minimal` (an `.ok` answer from an outer scope, with
-- competing viable candidates of larger cost), of `scope_defers` and of `scope_answers`
example : findFunction [[⟨"g", 9, [f]⟩], sc0] "h" [u, i] = .ok ⟨"h", 3, [i, i]⟩ := by decide +kernel
example : ∀ t ∈ ([⟨"g", 9, [f]⟩] : Scope), t.name ≠ "h" := by decide +kernel
example : ∃ t ∈ sc0, t.name = "h" := by decide +kernel
-- shadowing: the inner scope answers with an error although the outer one has a match
example : findFunction [[⟨"h", 9, [f2]⟩], sc0] "h" [i, f] = .error .noMatch := by decide +kernel
example : findFunction [sc0] "h" [i, f] = .ok ⟨"h", 4, [i, f]⟩ := by decide +kernel
-- hypotheses of `unique_min_chosen` for that call (`sc0` behind a scope without `h`)
example :
    (∀ sc' ∈ [([⟨"g", 9, [f]⟩] : Scope)], ∀ t ∈ sc', t.name ≠ "h") ∧
    (⟨"h", 3, [i, i]⟩ : Sig) ∈ sc0 ∧ Spec.viable ⟨"h", 3, [i, i]⟩ "h" [u, i] = true ∧
    sc0.count ⟨"h", 3, [i, i]⟩ = 1 ∧
    (∀ t ∈ sc0, Spec.viable t "h" [u, i] = true → t ≠ ⟨"h", 3, [i, i]⟩ →
      Spec.cost ⟨"h", 3, [i, i]⟩ [u, i] < Spec.cost t [u, i]) := by decide +kernel
-- hypothesis of `findFunction_perm` on a two-scope chain
example : ([[⟨"g", 9, [f]⟩], sc0] : List Scope).length = [[⟨"g", 9, [f]⟩], sc0.reverse].length := rfl
-- hypothesis of `wrong_arity_never_chosen`
example : (Sig.mk "h" 6 [f]).params.length ≠ [i, f].length := by decide +kernel

-- driver helpers (`String.splitOn` does not reduce in the kernel: checked by evaluation)
#guard parseTy? "s:float" = some f ∧ parseTy? "v:int:1" = some i1 ∧
    parseTy? "m:float:3:4" = some m34 ∧ parseTy? "v:int:0" = none ∧ parseTy? "x" = none
example : resultStr (findFunction [sc0] "h" [u, i]) = "ok 3" ∧
    resultStr (findFunction [sc0] "h" [u, u]) = "ambiguous" ∧
    resultStr (findFunction [sc0] "h" [f2, f]) = "nomatch" ∧
    resultStr (findFunction [sc0] "q" []) = "unknown" := by decide +kernel

end Examples

end Nsl.Overload
