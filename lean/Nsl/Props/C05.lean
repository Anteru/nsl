import Nsl.Props.C01
import Nsl.Props.C01Storage
import Nsl.Props.LowerOK
import Nsl.Proofs.ScalarOps
/-!
# C05 – accepted programs do not go wrong: the statement, and what the scalar operations and C01 give

`C05_Statement`: for every program the front end accepts, every execution of the lowered program on inputs of the
declared types ends in a value, a division by zero or an index out of range — never in an `internal` failure of the VM.
It is parametric in "accepted" and "inputs typed"; `Nsl/Props/C05IR.lean` proves it for "passes the IR type checker".
* `C05_scalar_op_no_internal`, `C05_cast_no_internal` – a scalar opcode on two numbers / a scalar cast of a finite number
  gives a number, `divZero` or the model's `unsupported` marker, never an internal failure;
* `C05_default_instance_total` – `NEW_VARIABLE` has no failure site;
* `C05_scalar_core_runs`, `C05_storage_core_runs`, `C05_scalar_core_runs_optimised` – weak corollaries of the C01
  theorems (which give the VM's result itself): when the reference semantics finishes, at some fuel the VM's result is
  not an internal failure (`timeout` is not internal).
The class and site of every failure after acceptance is observed on the real code by `harness/p_c05.py`.
-/
namespace Nsl
open VM Core Lower

def Res.isInternal : Res → Bool
  | .fail e => Err.isInternal e
  | _ => false

def C05_Statement (Accepted : Core.Module → Prop) (InputsTyped : Core.Module → String → List Val → Globals → Prop) : Prop :=
  ∀ (M : Core.Module), Accepted M → ∀ (fuel : Nat) (name : String) (args : List Val) (g : Globals),
    InputsTyped M name args g → Res.isInternal (VM.invoke (lowerModule M) fuel name args g) = false

theorem C05_scalar_op_no_internal (o : SOp) (it : Bool) (a b : Val) (ha : Val.isNum a = true) (hb : Val.isNum b = true) :
    (∀ v, scalarBin o it a b = .ok v → Val.isNum v = true) ∧
    (∀ e, scalarBin o it a b = .error e → Err.isInternal e = false) :=
  ⟨fun _ h => scalarBin_ok_num h, fun _ h => scalarBin_err_num ha hb h⟩

#print axioms C05_scalar_op_no_internal

theorem C05_cast_no_internal (s : Sc) (a : Val) (ha : Val.isNum a = true)
    (hfin : ∀ f, a = .flt f → (f.isNaN || f.isInf) = false) :
    (∀ v, castScalar s a = .ok v → Val.isNum v = true) ∧
    (∀ e, castScalar s a = .error e → Err.isInternal e = false) := by
  refine ⟨fun _ h => castScalar_ok_num h, fun e h => ?_⟩
  obtain ⟨_, f, rfl, hf⟩ := castScalar_err_num ha h
  rcases floorToInt_err hf with ⟨_, hnan⟩ | rfl
  · rw [hfin f rfl] at hnan; cases hnan
  · rfl

#print axioms C05_cast_no_internal

theorem C05_default_instance_total (cf : String → List Val → Globals → Res) (code : List Instr) (pc : Nat) (fr : Frame)
    (g : Globals) (dst : Nat) (ty : ITy) (name : String) (hc : code[pc]? = some (.newVar dst ty name)) :
    ∃ fr', stepI cf code pc fr g = .next (pc + 1) fr' g := by
  simp only [stepI, hc]
  split <;> exact ⟨_, rfl⟩

#print axioms C05_default_instance_total

theorem C05_scalar_core_runs (M : Core.Module) (hM : ScalarCore M) (fuel : Nat) (name : String) (args : List Val)
    (g : Globals) (v : Val) (g' : Globals) (as : List Val) (hargs : HostVals args) (hg : HostGlobals g)
    (href : CoreSem.invoke M fuel name args g = .done v g' as) :
    ∃ fuel', Res.isInternal (VM.invoke (lowerModule M) fuel' name args g) = false := by
  obtain ⟨fuel', h⟩ := C01_compile_correct M hM fuel name args g v g' as hargs hg href
  exact ⟨fuel', by rw [h]; rfl⟩

#print axioms C05_scalar_core_runs

theorem C05_storage_core_runs (M : Core.Module) (hM : StorageCore M) (fuel : Nat) (name : String) (args : List Val)
    (g : Globals) (v : Val) (g' : Globals) (as : List Val) (hargs : HostVals args) (hg : HostGlobals g)
    (href : CoreSem.invoke M fuel name args g = .done v g' as) :
    ∃ fuel', Res.isInternal (VM.invoke (lowerModule M) fuel' name args g) = false := by
  obtain ⟨fuel', h⟩ := C01_compile_correct_storage M hM fuel name args g v g' as hargs hg href
  exact ⟨fuel', by rw [h]; rfl⟩

#print axioms C05_storage_core_runs

theorem C05_scalar_core_runs_optimised (M : Core.Module) (hM : ScalarCore M) (hS : NoShadow M) (fuel : Nat) (name : String)
    (args : List Val) (g : Globals) (v : Val) (g' : Globals) (as : List Val) (hargs : HostVals args) (hg : HostGlobals g)
    (href : CoreSem.invoke M fuel name args g = .done v g' as) :
    ∃ fuel', Res.isInternal (VM.invoke (Opt.optProgram (lowerModule M)) fuel' name args g) = false := by
  obtain ⟨fuel', h⟩ := C01_opt_compile_correct M hM hS fuel name args g v g' as hargs hg href
  exact ⟨fuel', by rw [h]; rfl⟩

#print axioms C05_scalar_core_runs_optimised

end Nsl
