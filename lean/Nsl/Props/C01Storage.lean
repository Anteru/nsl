import Nsl.Proofs.StorMain
import Nsl.Props.C01
/-!
# C01, stage 2 – compiled programs compute what the source says: local arrays and structs used as storage

`StorageCore` (`Nsl/Model/StorageCore.lean`) extends `ScalarCore` by declarations of local aggregates (arrays of
any number of dimensions, structs, arrays of structs), reads `a[i]`, `a[i][j]`, `s.f`, `a[i].f` of scalar type and
assignments / `++` / `--` to such elements and fields (index expressions are arbitrary storage-core expressions,
possibly with side effects).  The statement is the one of `C01_compile_correct`: a finished run of the reference
semantics `CoreSem.invoke` (which entails that every dynamic index was in range) is reproduced by `VM.invoke` on
the lowered module – same value, same globals, same final argument list.  No extra hypothesis is needed.

Proof: `Nsl/Proofs/Stor*.lean` for expressions, access chains and stores, the statement and call level of
`Nsl/Proofs/Sim*.lean`, course-of-values induction on the fuel of the reference run (`Stor.sim_allS`).
The invariant does not forbid aliases everywhere: registers may hold `.ptr (.loc x) path`, while every local `x`
is a storage tree of depth `Γ x` (`Stor.Tree`, `Stor.FrOKS`) and arguments, globals and values of expressions are
never aliases.
-/
namespace Nsl
open Core VM Lower

theorem scalarCore_storageCore {M : Core.Module} (h : ScalarCore M) : StorageCore M :=
  fun f hf => Stor.okFn_okFnS (h f hf)

#print axioms scalarCore_storageCore

theorem C01_compile_correct_storage : C01_Statement StorageCore :=
  fun _ hM _ _ _ _ _ _ _ hargs hg href =>
    (Stor.invoke_correct hM href (hostVals_iff.1 hargs) (hostGlobals_iff.1 hg)).1

#print axioms C01_compile_correct_storage

/-- Globals and results stay plain values (never aliases into a dead frame). -/
theorem C01_globals_plain_storage (M : Core.Module) (hM : StorageCore M) (fuel : Nat) (name : String) (args : List Val)
    (g : Globals) (v : Val) (g' : Globals) (as : List Val) (hargs : HostVals args) (hg : HostGlobals g)
    (href : CoreSem.invoke M fuel name args g = .done v g' as) : HostGlobals g' ∧ VM.Val.isPtr v = false :=
  have h := Stor.invoke_correct hM href (hostVals_iff.1 hargs) (hostGlobals_iff.1 hg)
  ⟨hostGlobals_iff.2 h.2.2, h.2.1⟩

#print axioms C01_globals_plain_storage

/-- The scalar-core theorem is an instance. -/
example : C01_Statement ScalarCore :=
  fun M hM => C01_compile_correct_storage M (scalarCore_storageCore hM)

/-! ## Non-vacuity: a local 2-D array, a struct, an array of structs, loops writing elements -/
namespace C01StorEx
def i32 : ITy := .sc .int
def rowT : ITy := .arr i32 [3]
def arrT : ITy := .arr i32 [2, 3]
def pT : ITy := .struct "P" [("x", i32), ("y", i32)]
def psT : ITy := .arr pT [2]
def va (i : Nat) : Expr := .var .arg (.index i) i32
def vl (n : String) : Expr := .var .local (.name n) i32
def vg (n : String) : Expr := .var .global (.name n) i32
def b (op : BOp) (l r : Expr) : Expr := .bin op i32 l r
/-- `a[i][j]` -/
def a2 (i j : Expr) : Expr := .index .arr i32 (.index .arr rowT (.var .local (.name "a") arrT) i) j
/-- `s.f` -/
def sf (f : String) : Expr := .member i32 (.var .local (.name "s") pT) f
/-- `ps[i].f` -/
def psf (i : Expr) (f : String) : Expr := .member i32 (.index .arr pT (.var .local (.name "ps") psT) i) f

/-- ```
export function f(int n) -> int {
  int a[2][3]; P s; P ps[2];
  for (int i = 0; i < 2; ++i) for (int j = 0; j < 3; ++j) a[i][j] = i * 3 + j + n;
  s.x = a[1][2]; s.y = 0;
  a[0][1]++;
  int k = 0;
  while (k < 2) { s.y = s.y + a[k][1]; ps[k].x = a[k][2]; k++; }
  g = ps[--k].x;
  return s.x * 100 + s.y + --ps[0].x;
}``` -/
def f : FnDef := ⟨"f", [("n", i32)], i32,
  .seq (.decl "a" arrT none)
  (.seq (.decl "s" pT none)
  (.seq (.decl "ps" psT none)
  (.seq (.forL (.decl "i" i32 (some (.litI 0))) (some (b .lt (vl "i") (.litI 2))) (some (.affix false true (vl "i")))
      (.forL (.decl "j" i32 (some (.litI 0))) (some (b .lt (vl "j") (.litI 3))) (some (.affix false true (vl "j")))
        (.expr (.assign (a2 (vl "i") (vl "j")) (b .add (b .add (b .mul (vl "i") (.litI 3)) (vl "j")) (va 0))))))
  (.seq (.expr (.assign (sf "x") (a2 (.litI 1) (.litI 2))))
  (.seq (.expr (.assign (sf "y") (.litI 0)))
  (.seq (.expr (.affix true true (a2 (.litI 0) (.litI 1))))
  (.seq (.decl "k" i32 (some (.litI 0)))
  (.seq (.whileL (b .lt (vl "k") (.litI 2))
      (.seq (.expr (.assign (sf "y") (b .add (sf "y") (a2 (vl "k") (.litI 1)))))
      (.seq (.expr (.assign (psf (vl "k") "x") (a2 (vl "k") (.litI 2))))
            (.expr (.affix true true (vl "k"))))))
  (.seq (.expr (.assign (vg "g") (psf (.affix false false (vl "k")) "x")))
        (.ret (some (b .add (b .add (b .mul (sf "x") (.litI 100)) (sf "y"))
          (.affix false false (psf (.litI 0) "x"))))))))))))))⟩

def M : Core.Module := ⟨[("g", i32)], [f]⟩

theorem storageCore : StorageCore M := by decide

/-- The reference run is in the domain (computed by the kernel): `a = [[5,6,7],[8,9,10]]`, `s.x = 10`, `a[0][1]` becomes 7,
the loop leaves `s.y = 7 + 9`, `ps[0].x = 7`, `ps[1].x = 10`, `k = 2`; `g = ps[--k].x = 10`;
result `10 * 100 + 16 + 6`. -/
theorem ref_run : CoreSem.invoke M 400 "f" [.int 5] [("g", .int 0)] = .done (.int 1022) [("g", .int 10)] [.int 5] := by
  rfl

/-- Hence (by the theorem, not by running it) the VM returns 1022 and leaves g = 10. -/
example : ∃ fuel', VM.invoke (lowerModule M) fuel' "f" [.int 5] [("g", .int 0)] = .done (.int 1022) [("g", .int 10)] [.int 5] :=
  C01_compile_correct_storage M storageCore 400 "f" [.int 5] [("g", .int 0)] _ _ _
    (by intro a ha; simp at ha; subst ha; rfl)
    (by intro n x hx; simp [Map.get] at hx; obtain ⟨_, rfl⟩ := hx; rfl)
    ref_run

end C01StorEx

end Nsl
