import Nsl.Model.Names
import Nsl.Proofs.Names
import Nsl.Proofs.NamesBinding
import Nsl.Proofs.NamesStatic

/-!
# C12 — uniqueness of visible variable names, lexical binding

"A variable declaration is rejected exactly when its name is already visible at that point - as a
parameter of the function, a global, or a variable of the same or an enclosing block, loop header
or branch - while disjoint sibling scopes may reuse a name.  Consequently every use of a name in
an accepted program reads and writes the one declaration that is lexically visible there, and a
variable declared in a block or loop header is not visible after it."
-/

namespace Nsl.Names

open Spec

/-! ## 1. The checker accepts exactly the modules without a visible redeclaration -/

/-- The mirror of `ValidateVariableNames.py` accepts a module iff no declaration (global,
parameter, declaration statement, `for` header) sits at a position where its name is visible
(`Spec.visibleAt`), for any nesting depth. -/
theorem check_iff (m : Mod) : checkMod m = true ↔ Spec.NoVisibleRedecl m := by
  rw [checkMod_eq_okMod, okMod_iff]

#print axioms check_iff

theorem check_iff_positions (m : Mod) :
    checkMod m = true ↔
      m.globals.Nodup ∧
      ∀ f ∈ m.fns, (m.globals ++ f.params).Nodup ∧
        ∀ (p : List Dir) (s' : S) (x : String),
          subAt f.body p = some s' → declares s' = some x →
            x ∉ visibleAt (m.globals ++ f.params) f.body p :=
  check_iff m

#print axioms check_iff_positions

/-! ## 2. Disjoint sibling scopes may reuse a name -/

/-- Two sibling blocks that are each accepted in a context are accepted one after the other in
that context, whatever they declare. -/
theorem sibling_reuse (ctx : Ctx) (a b : S)
    (ha : (check ctx (.block a)).isSome = true) (hb : (check ctx (.block b)).isSome = true) :
    check ctx (.seq (.block a) (.block b)) = some ctx := by
  rw [check_seq, check_opens rfl ha, Option.bind_some, check_opens rfl hb]

#print axioms sibling_reuse

/-- `{ int x; } { int x; }` is accepted whenever `x` is not visible before. -/
theorem sibling_reuse_decl (ctx : Ctx) (x : String) (h : visible ctx x = false) :
    check ctx (.seq (.block (.decl x)) (.block (.decl x))) = some ctx := by
  have hx : (check ctx (.block (.decl x))).isSome = true := by
    obtain ⟨c, hc⟩ := Option.isSome_iff_exists.1
      (show (add ([] :: ctx) x).isSome = true by rw [add_isSome]; simp [visible, h])
    rw [check_block, check, hc]; rfl
  exact sibling_reuse ctx _ _ hx hx

#print axioms sibling_reuse_decl

theorem sibling_reuse_spec (V : List String) (a b : S) (ha : ok V a = true) (hb : ok V b = true) :
    ok V (.seq (.block a) (.block b)) = true := by
  simp [ok, adds, ha, hb]

#print axioms sibling_reuse_spec

/-! ## 3. Declarations do not leak out of a block, loop or if -/

/-- After a block, `for`, `while`, `do` or `if`, the context threaded onward is the one before. -/
theorem not_visible_after (ctx ctx' : Ctx) (s : S) (hs : opensScope s = true)
    (h : check ctx s = some ctx') : ctx' = ctx :=
  Option.some.inj (h.symm.trans (check_opens hs (Option.isSome_of_eq_some h)))

#print axioms not_visible_after

/-- Consequence: a name that was not visible before an accepted block / loop / if can be declared
right after it, even if the block / loop header declared it too. -/
theorem redeclare_after (ctx ctx' : Ctx) (s : S) (x : String) (hs : opensScope s = true)
    (h : check ctx s = some ctx') (hx : visible ctx x = false) :
    (check ctx (.seq s (.decl x))).isSome = true := by
  cases not_visible_after ctx ctx' s hs h
  rw [check_seq, h, Option.bind_some, check, add_isSome, hx]; rfl

#print axioms redeclare_after

/-- In particular `for (int i …) { … } int i;` and `{ int x; } int x;`. -/
theorem redeclare_after_for (ctx : Ctx) (i : String) (body : S)
    (h : (check ctx (.forL (some i) body)).isSome = true) :
    (check ctx (.seq (.forL (some i) body) (.decl i))).isSome = true := by
  refine redeclare_after ctx ctx _ i rfl (check_opens rfl h) ?_
  -- the header was added to `[] :: ctx`, so `i` was not visible there, nor in `ctx`
  rw [check_for_some] at h
  cases ha : add ([] :: ctx) i with
  | none => rw [ha] at h; cases h
  | some c =>
    have := add_isSome ([] :: ctx) i
    rw [ha] at this
    simpa [visible] using this.symm

#print axioms redeclare_after_for

/-! ## 4. Binding: the flat dictionary of the VM realises lexical scoping -/

/-- Whenever checking succeeds, the flat run logs the same uses in the same order as the lexically
scoped run, and every use that the lexical rule resolves (nearest enclosing visible declaration)
reads exactly that declaration from the flat dictionary — for every function, every path through
ifs and every number of loop iterations (oracle `o`). -/
theorem flat_refines_lexical (m : Mod) (h : checkMod m = true) :
    ∀ f ∈ m.fns, ∀ o : List Nat, Refines (lexTrace m f o) (flatTrace m f o) := by
  intro f hf o
  have hok := (checkMod_fn h hf).2
  have := sim (P := paramScope f) (G := globalScope m) (.block f.body) 0 _
    (show ok (m.globals ++ f.params) (.block f.body) = true from hok) _ _ (rel_init m f o)
  exact this.2.2

#print axioms flat_refines_lexical

/-- The property read literally: equality of the two traces for every accepted module. -/
def flat_eq_lexical_Statement : Prop :=
  ∀ m : Mod, checkMod m = true → ∀ f ∈ m.fns, ∀ o : List Nat, flatTrace m f o = lexTrace m f o

/-- It is false: `{ int x; } x;` is accepted by this pass (it only looks at
declarations); lexically `x` is an unknown symbol after the block, but the flat dictionary still
holds the binding. -/
example : ¬ flat_eq_lexical_Statement := by
  intro h
  have := h ⟨[], [⟨[], .seq (.block (.decl "x")) (.use "x")⟩]⟩ (by decide +kernel) _ (List.mem_singleton.mpr rfl) []
  revert this
  decide +kernel

theorem lex_allSome (m : Mod) (hd : usesDeclared m = true) :
    ∀ f ∈ m.fns, ∀ o : List Nat, ∀ e ∈ lexTrace m f o, e.2.isSome = true := by
  intro f hf o
  simp only [usesDeclared, List.all_eq_true] at hd
  exact (resolved (.block f.body) 0 _
    (show declaredOk (m.globals ++ f.params) (.block f.body) = true from hd f hf) _
    (relD_init m f o)).2.2

/-- The strongest true variant: if moreover every use is definitely preceded by a declaration in
scope (`Spec.usesDeclared`, i.e. no unknown symbols — checked by another pass of the compiler),
the two traces are EQUAL: every executed use reads, in the flat execution, exactly the declaration
that the lexical rule designates. -/
theorem flat_eq_lexical_partial (m : Mod) (h : checkMod m = true) (hd : usesDeclared m = true) :
    ∀ f ∈ m.fns, ∀ o : List Nat, flatTrace m f o = lexTrace m f o :=
  fun f hf o => (flat_refines_lexical m h f hf o).eq_of_allSome (lex_allSome m hd f hf o)

#print axioms flat_eq_lexical_partial

/-- Under the same hypotheses no use executed by the flat interpreter is an unknown symbol. -/
theorem uses_resolve (m : Mod) (h : checkMod m = true) (hd : usesDeclared m = true) :
    ∀ f ∈ m.fns, ∀ o : List Nat, ∀ e ∈ flatTrace m f o, e.2.isSome = true := by
  intro f hf o
  rw [flat_eq_lexical_partial m h hd f hf o]
  exact lex_allSome m hd f hf o

#print axioms uses_resolve

/-- The scoped run is the STATIC lexical rule: `lexTable` resolves every use occurrence of the
program text once (no oracle; that each use slot occurs once in it is `lexTable_slots_nodup`);
every event of the lexically scoped run is a use slot of the table, and if the run resolved it, it
resolved it to the table's entry. -/
theorem lexical_run_static (m : Mod) (h : checkMod m = true) :
    ∀ f ∈ m.fns, ∀ o : List Nat, ∀ e ∈ lexTrace m f o,
      ∃ d, (e.1, d) ∈ lexTable m f ∧ (e.2 = none ∨ e.2 = d) := by
  intro f hf o e he
  have hok := (checkMod_fn h hf).2
  rcases static_sim (.block f.body) 0 _
    (show ok (m.globals ++ f.params) (.block f.body) = true from hok)
    ⟨[paramScope f, globalScope m], o, []⟩ [paramScope f, globalScope m] (List.cons_ne_nil _ _)
    (le_init m f) e he with h' | h'
  · cases h'
  · exact h'

#print axioms lexical_run_static

theorem lexTable_slots_nodup (m : Mod) (f : Fn) : ((lexTable m f).map Prod.fst).Nodup :=
  table_nodup _ _ _

#print axioms lexTable_slots_nodup

/-- Slots identify occurrences: the slots of a statement, in pre-order, are `k, k+1, …`. -/
theorem slots_unique (s : S) (k : Nat) : (occs s k).map Prod.fst = List.range' k (size s) :=
  occs_slots s k

#print axioms slots_unique

/-- Altogether: in an accepted module without unknown symbols, every use executed by the flat
(VM-like) interpreter reads exactly the declaration that static lexical resolution assigns to that
use occurrence. -/
theorem flat_reads_static (m : Mod) (h : checkMod m = true) (hd : usesDeclared m = true) :
    ∀ f ∈ m.fns, ∀ o : List Nat, ∀ e ∈ flatTrace m f o, e ∈ lexTable m f := by
  intro f hf o e he
  have hs := uses_resolve m h hd f hf o e he
  rw [flat_eq_lexical_partial m h hd f hf o] at he
  obtain ⟨d, h1, h2⟩ := lexical_run_static m h f hf o e he
  rcases h2 with h2 | h2
  · simp [h2] at hs
  · rw [← h2] at h1; exact h1

#print axioms flat_reads_static

/-- No local or parameter of an accepted module has the name of a global, and no local has the
name of a parameter of its function (locals: every declaration statement and `for` header, at any
depth). -/
theorem local_never_shadows_global (m : Mod) (h : checkMod m = true) :
    ∀ f ∈ m.fns,
      (∀ p ∈ f.params, p ∉ m.globals) ∧
      ∀ x ∈ locals f.body, x ∉ m.globals ∧ x ∉ f.params := by
  intro f hf
  obtain ⟨hnd, hok⟩ := checkMod_fn h hf
  refine ⟨?_, ?_⟩
  · intro p hp hg
    exact (List.nodup_append.mp hnd).2.2 p hg p hp rfl
  · intro x hx
    have := ok_locals f.body _ hok x hx
    simpa [not_or] using this

#print axioms local_never_shadows_global

/-! ## 5. Non-vacuity -/

-- `if (c) int a = 1; else int a = 2;` : both branches share the if's context
example : checkMod ⟨[], [⟨[], .ite (.decl "a") (.decl "a")⟩]⟩ = false := by decide +kernel
-- braced branches open their own contexts
example : checkMod ⟨[], [⟨[], .ite (.block (.decl "a")) (.block (.decl "a"))⟩]⟩ = true := by decide +kernel
-- `for (int i …) { int i; }` : the body block is a child of the for context
example : checkMod ⟨[], [⟨[], .forL (some "i") (.block (.decl "i"))⟩]⟩ = false := by decide +kernel
-- reuse after the loop
example : checkMod ⟨[], [⟨[], .seq (.forL (some "i") (.block (.decl "j")))
    (.seq (.forL (some "i") .skip) (.seq (.decl "j") (.decl "i")))⟩]⟩ = true := by decide +kernel
-- parameter vs local
example : checkMod ⟨[], [⟨["p"], .decl "p"⟩]⟩ = false := by decide +kernel
-- global vs local (the global is visible whatever the textual order)
example : checkMod ⟨["g"], [⟨[], .block (.whileL (.decl "g"))⟩]⟩ = false := by decide +kernel
-- global vs parameter, duplicate parameters, duplicate globals
example : checkMod ⟨["g"], [⟨["g"], .skip⟩]⟩ = false := by decide +kernel
example : checkMod ⟨[], [⟨["p", "p"], .skip⟩]⟩ = false := by decide +kernel
example : checkMod ⟨["g", "g"], []⟩ = false := by decide +kernel
-- two functions reusing parameter and local names
example : checkMod ⟨["g"], [⟨["p"], .seq (.decl "a") (.use "a")⟩, ⟨["p"], .decl "a"⟩]⟩ = true := by
  decide +kernel
-- a nested declaration of an outer name is rejected at any depth
example : checkMod ⟨[], [⟨[], .seq (.decl "a")
    (.whileL (.block (.doL (.ite .skip (.block (.forL none (.decl "a")))))))⟩]⟩ = false := by decide +kernel
-- the specification side is decidable too, and agrees
example : Spec.NoVisibleRedecl ⟨["g"], [⟨["p"], .seq (.block (.decl "a")) (.block (.decl "a"))⟩]⟩ := by
  decide +kernel
example : ¬ Spec.NoVisibleRedecl ⟨[], [⟨[], .ite (.decl "a") (.decl "a")⟩]⟩ := by decide +kernel
-- hypotheses of `sibling_reuse`, `not_visible_after`, `redeclare_after` are satisfiable
example : (check [["p"], ["g"]] (.block (.decl "x"))).isSome = true := by decide +kernel
example : check [["p"], ["g"]] (.forL (some "i") (.block (.decl "x"))) = some [["p"], ["g"]] := by
  decide +kernel

example : checkMod exLoop = true := by decide +kernel
example : usesDeclared exLoop = false := by decide +kernel
-- two iterations, then-branch first, else-branch second: the flat dictionary still holds the
-- `x` of the first iteration, lexically it is unknown; everything else agrees
example : lexTrace exLoop exLoop.fns[0]! [2, 1, 0] =
    [(3, some (.loc 0)), (4, some (.param 0)), (5, some (.global 0)),
     (2, none), (3, some (.loc 0)), (4, some (.param 0)), (5, some (.global 0))] := by decide +kernel
example : flatTrace exLoop exLoop.fns[0]! [2, 1, 0] =
    [(3, some (.loc 0)), (4, some (.param 0)), (5, some (.global 0)),
     (2, some (.loc 1)), (3, some (.loc 0)), (4, some (.param 0)), (5, some (.global 0))] := by decide +kernel
example : Refines (lexTrace exLoop exLoop.fns[0]! [2, 1, 0]) (flatTrace exLoop exLoop.fns[0]! [2, 1, 0]) := by
  decide +kernel

-- the hypotheses of `flat_eq_lexical_partial` are satisfiable, and the traces are not trivial
example : checkMod exGood = true ∧ usesDeclared exGood = true := by decide +kernel
example : flatTrace exGood exGood.fns[0]! [2, 0] =
    [(3, some (.loc 2)), (4, some (.loc 1)), (5, some (.loc 0)),
     (3, some (.loc 2)), (4, some (.loc 1)), (5, some (.loc 0)),
     (7, some (.loc 6)), (8, some (.param 0)), (9, some (.global 0))] := by decide +kernel
example : flatTrace exGood exGood.fns[0]! [2, 0] = lexTrace exGood exGood.fns[0]! [2, 0] := by decide +kernel
example : lexTable exGood exGood.fns[0]! =
    [(3, some (.loc 2)), (4, some (.loc 1)), (5, some (.loc 0)),
     (7, some (.loc 6)), (8, some (.param 0)), (9, some (.global 0))] := by decide +kernel
-- statically, the `x` in the else branch of `exLoop` denotes the un-braced declaration of the then
-- branch (one scope for the whole if); the run, which takes one branch only, finds nothing
example : lexTable exLoop exLoop.fns[0]! =
    [(2, some (.loc 1)), (3, some (.loc 0)), (4, some (.param 0)), (5, some (.global 0))] := by decide +kernel
-- without the checker's guarantee the flat dictionary does NOT implement lexical scoping:
-- `{ int a; { int a; } a; }` reads the inner `a` (slot 1) instead of the outer one (slot 0)
example : checkMod ⟨[], [⟨[], .seq (.decl "a") (.seq (.block (.decl "a")) (.use "a"))⟩]⟩ = false := by
  decide +kernel
example :
    let m : Mod := ⟨[], [⟨[], .seq (.decl "a") (.seq (.block (.decl "a")) (.use "a"))⟩]⟩
    lexTrace m m.fns[0]! [] = [(2, some (.loc 0))] ∧ flatTrace m m.fns[0]! [] = [(2, some (.loc 1))] := by
  decide +kernel

end Nsl.Names
