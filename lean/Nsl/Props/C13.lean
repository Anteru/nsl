import Nsl.Model.Static
import Nsl.Proofs.Static

/-!
# Property C13 — static checks on element selection

"A constant index is accepted only if it lies inside the dimension it selects - for arrays (each
dimension of a multi-dimensional array), vector components and matrix rows and columns - and
negative or too-large constants are rejected; an index expression must have integer type.  A
swizzle on a vector is accepted only if its mask uses one of the letter sets xyzw / rgba without
mixing them and names only components the vector has."

`checkChain base idxs` is the verdict of the three passes (`ComputeTypes`,
`ValidateArrayAccessType`, `ValidateArrayOutOfBoundsAccess`, repaired sources) on the access chain
`base[i1]…[ik]`; `validateMask` / `swizzleOK` mirror `ValidateSwizzleMask` and its visitor.  The
specifications `Spec.ChainOK`, `Spec.MaskOK` are in `Nsl/Model/Static.lean`.  All theorems hold for
every shape (any number of dimensions, any sizes), every integer constant and every mask over the
full `Char` alphabet.
-/

namespace Nsl.Static

open Spec

/-! ## 1. The three passes decide exactly the specification -/

theorem checkChain_iff_spec (base : Ty) (hwf : WF base) (idxs : List Idx) :
    checkChain base idxs = true ↔ Spec.ChainOK base idxs := by
  induction idxs generalizing base with
  | nil =>
    simp [checkChain_nil, ChainOK, AllOK_nil]
  | cons i is ih =>
    rcases indexResult_spec base hwf with ⟨hr, hd⟩ | ⟨d, rest, t', hs, hr, hwf', hd⟩
    · simp [checkChain_cons, hr, ChainOK, hd]
    · rw [checkChain_step hs hr, ih t' hwf']
      simp only [ChainOK, hd, AllOK_cons, List.length_cons, Nat.add_le_add_iff_right]
      exact and_left_comm
#print axioms checkChain_iff_spec

theorem checkChain_eq_spec (base : Ty) (hwf : WF base) (idxs : List Idx) :
    checkChain base idxs = Spec.chainOK base idxs := by
  rw [Bool.eq_iff_iff, checkChain_iff_spec base hwf idxs]
  simp [Spec.chainOK]
#print axioms checkChain_eq_spec

/-- The hypothesis is satisfiable: `float3x2[4][5][6]`, a chain through all five dimensions. -/
example : WF (.arr (.mat .float 3 2) [4, 5, 6]) ∧
    checkChain (.arr (.mat .float 3 2) [4, 5, 6])
      [.lit 3, .dyn (.scalar .uint), .lit 5, .lit 2, .lit 1] = true := by decide +kernel

/-- `WF` is needed: with an empty dimension list `GetSize()[0]` raises. -/
example : ¬ WF (.arr (.scalar .int) []) ∧
    checkChain (.arr (.scalar .int) []) [.lit 0] = false := by decide +kernel

/-! ## 2. Readable corollaries -/

/-- A constant index on an array is accepted iff it lies in the FIRST dimension. -/
theorem lit_in_bounds_iff (e : Ty) (d : Nat) (ds : List Nat) (v : Int) :
    checkChain (.arr e (d :: ds)) [.lit v] = true ↔ 0 ≤ v ∧ v < (d : Int) :=
  checkChain_one rfl (indexResult_arr_isSome e d ds) _
#print axioms lit_in_bounds_iff

/-- The second index is compared with the SECOND size (regression of the "last dimension" defect). -/
theorem second_dim_uses_second_size (e : Ty) (d1 d2 : Nat) (a b : Int) :
    checkChain (.arr e [d1, d2]) [.lit a, .lit b] = true ↔
      (0 ≤ a ∧ a < (d1 : Int)) ∧ (0 ≤ b ∧ b < (d2 : Int)) := by
  simp only [checkChain_step rfl (indexResult_arr_more e d1 d2 []),
    checkChain_step rfl (indexResult_arr_one e d2), checkChain_nil, and_true, IdxOK]
#print axioms second_dim_uses_second_size

/-- The OLD (defective) rule of `ValidateArrayOutOfBoundsAccess`: compare with the LAST size of
the parent, no test for negative values. -/
def oldBound (v : Int) (sizes : List Nat) : Bool := decide (v < (sizes.getLast! : Nat))

/-- On `int[2][3] t`, the old rule accepted the first step of `t[2][0]` (2 < 3); on `int[3][2] t`
it rejected the first step of `t[2][1]` (¬ 2 < 2); it accepted `t[-1]`.  The repaired passes give
the right verdicts. -/
example : oldBound 2 [2, 3] = true ∧
    checkChain (.arr (.scalar .int) [2, 3]) [.lit 2, .lit 0] = false := by decide +kernel
example : oldBound 2 [3, 2] = false ∧
    checkChain (.arr (.scalar .int) [3, 2]) [.lit 2, .lit 1] = true := by decide +kernel
example : oldBound (-1) [2, 3] = true ∧
    checkChain (.arr (.scalar .int) [2, 3]) [.lit (-1)] = false := by decide +kernel

/-- A negative constant is rejected wherever it stands in the chain, on every base type. -/
theorem negative_rejected (base : Ty) (pre post : List Idx) (v : Int) (hv : v < 0) :
    checkChain base (pre ++ .lit v :: post) = false :=
  checkChain_bad_step base pre _ post (fun p => stepOK_neg p v hv)
#print axioms negative_rejected

/-- A constant outside the dimension it selects (negative or too large) is rejected. -/
theorem const_out_of_range_rejected (base : Ty) (hwf : WF base) (idxs : List Idx) (j : Nat)
    (v : Int) (d : Nat) (hi : idxs[j]? = some (.lit v)) (hd : (dimsOf base)[j]? = some d)
    (hv : v < 0 ∨ (d : Int) ≤ v) : checkChain base idxs = false := by
  rw [Bool.eq_false_iff]
  intro h
  have := ((checkChain_iff_spec base hwf idxs).1 h).2
  obtain ⟨hj, hij⟩ := List.getElem?_eq_some_iff.1 hi
  obtain ⟨hj', hdj⟩ := List.getElem?_eq_some_iff.1 hd
  have := this j hj hj'
  rw [hij, hdj] at this
  simp only [IdxOK] at this
  omega
#print axioms const_out_of_range_rejected

/-- A chain cannot select more dimensions than the type has. -/
theorem too_many_indices_rejected (base : Ty) (hwf : WF base) (idxs : List Idx)
    (h : (dimsOf base).length < idxs.length) : checkChain base idxs = false := by
  rw [Bool.eq_false_iff]
  intro hc
  have := ((checkChain_iff_spec base hwf idxs).1 hc).1
  omega
#print axioms too_many_indices_rejected

/-- Matrix: the first constant selects a row, the second a column. -/
theorem matrix_rows_then_columns (c : Comp) (r k : Nat) (a b : Int) :
    checkChain (.mat c r k) [.lit a, .lit b] = true ↔
      (0 ≤ a ∧ a < (r : Int)) ∧ (0 ≤ b ∧ b < (k : Int)) := by
  simp only [checkChain_step rfl (indexResult_mat c r k), checkChain_step rfl (indexResult_vec c k),
    checkChain_nil, and_true, IdxOK]
#print axioms matrix_rows_then_columns

/-- Vector: a constant selects one of the `n` components. -/
theorem vector_components (c : Comp) (n : Nat) (v : Int) :
    checkChain (.vec c n) [.lit v] = true ↔ 0 ≤ v ∧ v < (n : Int) :=
  checkChain_one rfl rfl _
#print axioms vector_components

/-- In general: only `int` and `uint` expressions are accepted as indices. -/
theorem noninteger_index_rejected (base : Ty) (pre post : List Idx) (t : Ty)
    (h1 : t ≠ .scalar .int) (h2 : t ≠ .scalar .uint) :
    checkChain base (pre ++ .dyn t :: post) = false :=
  checkChain_bad_step base pre _ post (fun p => stepOK_nonint p t h1 h2)
#print axioms noninteger_index_rejected

/-- An index of type `float` (a float literal included) is rejected. -/
theorem float_index_rejected (base : Ty) (pre post : List Idx) :
    checkChain base (pre ++ .dyn (.scalar .float) :: post) = false :=
  noninteger_index_rejected base pre post _ (by decide) (by decide)
#print axioms float_index_rejected

/-- An index of vector type is rejected (even an integer vector). -/
theorem vector_index_rejected (base : Ty) (pre post : List Idx) (c : Comp) (n : Nat) :
    checkChain base (pre ++ .dyn (.vec c n) :: post) = false :=
  noninteger_index_rejected base pre post _ nofun nofun
#print axioms vector_index_rejected

/-- Non-constant `int` / `uint` indices are accepted without a bounds test. -/
theorem dynamic_integer_index_accepted (e : Ty) (d : Nat) (ds : List Nat) (c : Comp)
    (hc : c = .int ∨ c = .uint) :
    checkChain (.arr e (d :: ds)) [.dyn (.scalar c)] = true :=
  (checkChain_one rfl (indexResult_arr_isSome e d ds) _).2 (hc.imp (congrArg _) (congrArg _))
#print axioms dynamic_integer_index_accepted

/-! ## 3. Swizzle masks -/

theorem validateMask_iff_spec' (n : Nat) (mask : List Char) (hne : mask ≠ []) :
    validateMask mask n = true ↔ Spec.MaskOK n mask := by
  rw [validateMask_iff]
  unfold MaskOK
  constructor
  · rintro ⟨h1, h2, h3⟩
    refine ⟨hne, ?_, ?_⟩
    · by_cases hx : ∃ c ∈ mask, c ∈ xyzw
      · left
        intro c hc
        rcases (mem_letters c).1 (h1 c hc) with h | h
        · exact h
        · exact absurd ⟨hx, c, hc, h⟩ h3
      · right
        intro c hc
        rcases (mem_letters c).1 (h1 c hc) with h | h
        · exact absurd ⟨c, hc, h⟩ hx
        · exact h
    · intro c hc
      obtain ⟨i, hi, hlt⟩ := h2 c hc
      constructor
      · intro hx; rw [componentIndex_xyzw c hx] at hi; cases hi; exact hlt
      · intro hr; rw [componentIndex_rgba c hr] at hi; cases hi; exact hlt
  · rintro ⟨_, h1, h2⟩
    refine ⟨?_, ?_, ?_⟩
    · intro c hc
      rw [mem_letters]
      rcases h1 with h | h
      · exact Or.inl (h c hc)
      · exact Or.inr (h c hc)
    · intro c hc
      rcases h1 with h | h
      · exact ⟨_, componentIndex_xyzw c (h c hc), (h2 c hc).1 (h c hc)⟩
      · exact ⟨_, componentIndex_rgba c (h c hc), (h2 c hc).2 (h c hc)⟩
    · rintro ⟨⟨c, hc, hx⟩, ⟨c', hc', hr⟩⟩
      rcases h1 with h | h
      · exact xyzw_rgba_disjoint c' (h c' hc') hr
      · exact xyzw_rgba_disjoint c hx (h c hc)
#print axioms validateMask_iff_spec'

theorem validateMask_eq_spec (n : Nat) (mask : List Char) (hne : mask ≠ []) :
    validateMask mask n = Spec.maskOK n mask := by
  rw [Bool.eq_iff_iff, validateMask_iff_spec' n mask hne]
  simp [Spec.maskOK]
#print axioms validateMask_eq_spec

/-- The hypothesis is satisfiable, with both verdicts. -/
example : ['x', 'z', 'y'] ≠ [] ∧ validateMask ['x', 'z', 'y'] 3 = true ∧
    validateMask ['x', 'w', 'y'] 3 = false := by decide +kernel

/-- `hne` is needed: `ValidateSwizzleMask("")` raises nothing (but `v.` is a syntax error, the
empty mask cannot be written). -/
example : validateMask [] 3 = true ∧ Spec.maskOK 3 [] = false := by decide +kernel

/-- A mask with a letter of each set is rejected. -/
theorem mixed_rejected (mask : List Char) (n : Nat) (c1 c2 : Char)
    (h1 : c1 ∈ mask) (hx : c1 ∈ xyzw) (h2 : c2 ∈ mask) (hr : c2 ∈ rgba) :
    validateMask mask n = false := by
  rw [Bool.eq_false_iff]
  intro h
  exact ((validateMask_iff mask n).1 h).2.2 ⟨⟨c1, h1, hx⟩, ⟨c2, h2, hr⟩⟩
#print axioms mixed_rejected

/-- A mask with a character outside `xyzwrgba` is rejected. -/
theorem foreign_letter_rejected (mask : List Char) (n : Nat) (c : Char)
    (h1 : c ∈ mask) (hc : c ∉ letters) : validateMask mask n = false := by
  rw [Bool.eq_false_iff]
  intro h
  exact hc (((validateMask_iff mask n).1 h).1 c h1)
#print axioms foreign_letter_rejected

/-- A mask naming a component the vector does not have is rejected. -/
theorem out_of_range_rejected (mask : List Char) (n : Nat) (c : Char) (i : Nat)
    (h1 : c ∈ mask) (hi : componentIndex c = some i) (hn : n ≤ i) :
    validateMask mask n = false := by
  rw [Bool.eq_false_iff]
  intro h
  obtain ⟨i', hi', hlt⟩ := ((validateMask_iff mask n).1 h).2.1 c h1
  rw [hi] at hi'
  cases hi'
  omega
#print axioms out_of_range_rejected

/-- `z` (and `b`) on a 2-vector. -/
example : swizzleOK (.vec .float 2) ['x', 'z'] = false ∧
    swizzleOK (.vec .float 2) ['b'] = false ∧ swizzleOK (.vec .float 2) ['y', 'x'] = true := by
  decide +kernel

/-- Repetition is allowed: `rrrr` on any vector. -/
theorem repetition_ok (c : Comp) (n : Nat) (hn : 1 ≤ n) :
    swizzleOK (.vec c n) ['r', 'r', 'r', 'r'] = true := by
  simp only [swizzleOK]
  rw [validateMask_iff_spec' n _ (by simp)]
  refine ⟨by simp, Or.inr (by simp [rgba]), ?_⟩
  intro ch hch
  have : ch = 'r' := by simpa using hch
  subst this
  refine ⟨fun h => absurd h (by decide), fun _ => ?_⟩
  have : rgba.idxOf 'r' = 0 := by decide
  omega
#print axioms repetition_ok

theorem swizzle_matrix_rejected (c : Comp) (r k : Nat) (mask : List Char) :
    swizzleOK (.mat c r k) mask = false := rfl
#print axioms swizzle_matrix_rejected

/-- On a vector, `swizzleOK` is the specification with `n` = its component count. -/
theorem swizzleOK_vec_iff (c : Comp) (n : Nat) (mask : List Char) (hne : mask ≠ []) :
    swizzleOK (.vec c n) mask = true ↔ Spec.MaskOK n mask :=
  validateMask_iff_spec' n mask hne
#print axioms swizzleOK_vec_iff

/-! ## 4. Type of an accepted swizzle (`ComputeSwizzleType`) -/

theorem swizzleType_of_ok {t : Ty} {c : Comp} {mask : List Char}
    (hc : componentType t = .scalar c) (hok : swizzleOK t mask = true) :
    (mask.length = 1 → swizzleType t mask = some (.scalar c)) ∧
    (2 ≤ mask.length → swizzleType t mask = some (.vec c mask.length)) := by
  simp only [swizzleType, hok, if_true, computeSwizzleType, hc]
  exact ⟨fun h => by rw [if_pos h], fun h => by rw [if_neg (by omega)]⟩

theorem swizzle_type (c : Comp) (n : Nat) (mask : List Char)
    (hok : swizzleOK (.vec c n) mask = true) :
    (mask.length = 1 → swizzleType (.vec c n) mask = some (.scalar c)) ∧
    (2 ≤ mask.length → swizzleType (.vec c n) mask = some (.vec c mask.length)) :=
  swizzleType_of_ok rfl hok
#print axioms swizzle_type

/-- Scalars can be swizzled too (`s.xxx` builds a vector); same typing rule. -/
theorem swizzle_type_scalar (c : Comp) (mask : List Char)
    (hok : swizzleOK (.scalar c) mask = true) :
    (mask.length = 1 → swizzleType (.scalar c) mask = some (.scalar c)) ∧
    (2 ≤ mask.length → swizzleType (.scalar c) mask = some (.vec c mask.length)) :=
  swizzleType_of_ok rfl hok
#print axioms swizzle_type_scalar

theorem swizzle_type_none (t : Ty) (mask : List Char) (h : swizzleOK t mask = false) :
    swizzleType t mask = none := by
  simp [swizzleType, h]
#print axioms swizzle_type_none

/-! ## 5. Non-vacuity -/

-- `float3[2][3] a`: `a[1][2][2]` accepted, `a[1][2][3]`, `a[1][3][0]`, `a[2][0][0]` and
-- `a[1][2][2][0]` rejected.
example : checkChain (.arr (.vec .float 3) [2, 3]) [.lit 1, .lit 2, .lit 2] = true := by decide +kernel
example : checkChain (.arr (.vec .float 3) [2, 3]) [.lit 1, .lit 2, .lit 3] = false := by decide +kernel
example : checkChain (.arr (.vec .float 3) [2, 3]) [.lit 1, .lit 3, .lit 0] = false := by decide +kernel
example : checkChain (.arr (.vec .float 3) [2, 3]) [.lit 2, .lit 0, .lit 0] = false := by decide +kernel
example : checkChain (.arr (.vec .float 3) [2, 3]) [.lit 1, .lit 2, .lit 2, .lit 0] = false := by
  decide +kernel
-- the specification gives the same verdicts
example : Spec.ChainOK (.arr (.vec .float 3) [2, 3]) [.lit 1, .lit 2, .lit 2] := by decide +kernel
example : ¬ Spec.ChainOK (.arr (.vec .float 3) [2, 3]) [.lit 1, .lit 2, .lit 3] := by decide +kernel
example : Spec.dimsOf (.arr (.mat .float 3 2) [4, 5, 6]) = [4, 5, 6, 3, 2] := by decide +kernel
-- `float2x3 m`: `m[1][2]` accepted, `m[2][1]` rejected (2 rows, 3 columns)
example : checkChain (.mat .float 2 3) [.lit 1, .lit 2] = true ∧
    checkChain (.mat .float 2 3) [.lit 2, .lit 1] = false := by decide +kernel
-- index types
example : checkChain (.vec .int 4) [.dyn (.scalar .uint)] = true ∧
    checkChain (.vec .int 4) [.dyn (.scalar .float)] = false ∧
    checkChain (.vec .int 4) [.dyn (.vec .int 2)] = false ∧
    checkChain (.scalar .int) [.lit 0] = false := by decide +kernel
-- result types of chains
example : chainType (.arr (.mat .float 3 2) [4, 5]) [.lit 0] = some (.arr (.mat .float 3 2) [5]) ∧
    chainType (.arr (.mat .float 3 2) [4, 5]) [.lit 0, .lit 0] = some (.mat .float 3 2) ∧
    chainType (.arr (.mat .float 3 2) [4, 5]) [.lit 0, .lit 0, .lit 0] = some (.vec .float 2) ∧
    chainType (.arr (.mat .float 3 2) [4, 5]) [.lit 0, .lit 0, .lit 0, .lit 0]
      = some (.scalar .float) := by decide +kernel
-- swizzles
example : swizzleOK (.vec .float 4) ['x', 'y', 'z', 'w'] = true ∧
    swizzleOK (.vec .float 4) ['a', 'b', 'g', 'r'] = true ∧
    swizzleOK (.vec .float 4) ['x', 'g'] = false ∧
    swizzleOK (.vec .float 4) ['x', 'q'] = false ∧
    swizzleOK (.vec .float 3) ['w'] = false ∧
    swizzleOK (.scalar .float) ['x', 'x'] = true ∧
    swizzleOK (.scalar .float) ['y'] = false := by decide +kernel
example : Spec.MaskOK 3 ['b', 'g', 'r'] ∧ ¬ Spec.MaskOK 3 ['b', 'g', 'x'] ∧
    ¬ Spec.MaskOK 3 ['a'] := by decide +kernel
example : swizzleType (.vec .int 3) ['z'] = some (.scalar .int) ∧
    swizzleType (.vec .int 3) ['z', 'x'] = some (.vec .int 2) ∧
    swizzleType (.vec .int 3) ['z', 'x', 'x', 'y'] = some (.vec .int 4) ∧
    swizzleType (.vec .int 3) ['w'] = none := by decide +kernel
end Nsl.Static
