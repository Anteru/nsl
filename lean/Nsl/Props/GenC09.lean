import Nsl.Gen.OpMaps
/-!
# C09 table obligations: `op.IsComparison` and the operator enum values

Regenerated tables (`harness/extract.py`) are checked by `decide`; a change to the table in the Python
breaks the build of this file, and the check then searches for a failing input (DESIGN.md §2.3).
-/
namespace Nsl.GenObl
open Nsl.Gen

theorem c09_isComparison_exact :
    (OpMaps.binaryOps.filter (fun r => r.2.2.2)).map (·.1) = ["<", "<=", ">", ">=", "==", "!="] := by
  decide +kernel

/-- The enum values in `op.py`.  The literals are those of the Lean mirror `Types.opValue`; the two
lists are kept equal by hand, `opValue` itself does not occur here. -/
theorem c09_opValues :
    OpMaps.binaryOps.map (fun r => (r.1, r.2.2.1)) =
      [("+", 102), ("-", 103), ("*", 104), ("/", 105), ("%", 106), ("<", 201), ("<=", 202), (">", 200),
       (">=", 203), ("==", 205), ("!=", 204), ("&&", 301), ("||", 300)] := by
  decide +kernel

end Nsl.GenObl

#print axioms Nsl.GenObl.c09_isComparison_exact
#print axioms Nsl.GenObl.c09_opValues
