import Nsl.Gen.LocIdx
/-!
# C20 table obligation: the token whose position becomes a node's location

Regenerated tables (`harness/extract.py`) are checked by `decide`; a change to the table in the Python
breaks the build of this file, and the check then searches for a failing input (DESIGN.md §2.3).
-/
namespace Nsl.GenObl
open Nsl.Gen

/-- In every parser action that sets a location from a token, that token is of identifier or
literal kind (`s.2.2.2.2.2`: the rhs symbol at the index passed). -/
theorem c20_location_token :
    ∀ s ∈ LocIdx.sites,
      s.2.2.2.2.2 ∈ ["ID", "INT_CONST_DEC", "INT_CONST_OCT", "INT_CONST_HEX", "FLOAT_CONST"] := by
  decide +kernel

end Nsl.GenObl

#print axioms Nsl.GenObl.c20_location_token
