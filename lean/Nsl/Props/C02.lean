import Nsl.Proofs.OptSimPasses
/-!
# C02 – optimisation never changes observable behaviour

`Opt.optProgram` is the model of `OptimizeConstantCasts` followed by `OptimizeLoadAfterStore` (with the deferred
replace / replace-uses bookkeeping).  First the facts the soundness argument consists of, for ALL programs / states:

* `C02_same_interface` – optimisation keeps every function (name, parameters, return type) and the globals, so the
  accept/link/resolve behaviour is unchanged;
* `C02_only_casts_and_loads_removed` – a pass keeps every label, branch, store, call, return, declaration … in order
  (operands rewired);
* `C02_removed_cast_justified` / `C02_removed_load_justified` – a removed instruction is a cast of a constant that
  folds or a load whose predecessor in the block is a store to the same variable; users are rewired to the folded
  constant / the stored operand (chains resolved);
* `C02_fold_sound` – the folded constant is the value the VM's CAST computes;
* `C02_forward_sound` – a store followed by the load leaves exactly the stored operand's value in the load's register
  and changes nothing else.

Then the global statement under the decidable side conditions `optOK`, which the harness evaluates on every real IR:
every run of the unoptimised program that does not run out of fuel is reproduced with the SAME fuel (`C02_opt_correct`,
`C02_opt_correct_fail`); conversely every outcome of the optimised program other than `timeout` is the outcome of the
original for some larger fuel (`C02_opt_complete`, `C02_opt_complete_fail`).  With `forwardOK` as the only hypothesis
the statement is FALSE (`C02_Statement_false`): the substitution is per function, so references must be defined once
(`defsDistinct`, see `C02GlobalEx.bad`) and used in the block that defines them (`blockLocal`).
Proofs: `Nsl/Proofs/OptSim*.lean`; overview in `C02_NOTES.md`.
-/
namespace Nsl
open VM Opt

/-- With `forwardOK` as the only side condition: a finished unoptimised run is reproduced by the optimised program.
This does NOT hold (`C02_Statement_false`); `C02_Statement_optOK` is the statement that does. -/
def C02_Statement : Prop :=
  ∀ (P : Program), (∀ f ∈ P.funcs, forwardOK none (pass ccDecide f.code) = true) →
  ∀ (fuel : Nat) (name : String) (args : List Val) (g : Globals) (v : Val) (g' : Globals) (as : List Val),
    VM.invoke P fuel name args g = .done v g' as →
    ∃ fuel', VM.invoke (optProgram P) fuel' name args g = .done v g' as

theorem C02_same_interface (P : Program) (name : String) :
    (optProgram P).find name = (P.find name).map optFn ∧ (optProgram P).globals = P.globals ∧
      ∀ f, (optFn f).name = f.name ∧ (optFn f).params = f.params ∧ (optFn f).ret = f.ret :=
  ⟨find_optProgram P name, rfl, fun _ => ⟨rfl, rfl, rfl⟩⟩

#print axioms C02_same_interface

theorem C02_only_casts_and_loads_removed (code : List Instr) :
    ∃ σ₁ σ₂, (optCode code).filter (fun i => !removable i) =
      ((code.filter (fun i => !removable i)).map (substInstr σ₁)).map (substInstr σ₂) := by
  obtain ⟨σ₁, h1⟩ := pass_keeps ccDecide ccDecide_removable code
  obtain ⟨σ₂, h2⟩ := pass_keeps lasDecide lasDecide_removable (pass ccDecide code)
  exact ⟨σ₁, σ₂, by unfold optCode; rw [h2, h1]⟩

#print axioms C02_only_casts_and_loads_removed

theorem C02_removed_cast_justified (prev : Option Instr) (ins : Instr) (σ : Subst) (d : Nat) (o : Opd)
    (h : ccDecide prev ins σ = some (d, o)) :
    ∃ ty a x y, ins = .cast d ty a ∧ constVal a = some x ∧ constVal o = some y ∧ castExec ty x = .ok y := by
  obtain ⟨ty, a, rfl, hf⟩ := ccDecide_some h
  obtain ⟨x, y, hx, hy, hc⟩ := foldCast_sound hf
  exact ⟨ty, a, x, y, rfl, hx, hy, hc⟩

#print axioms C02_removed_cast_justified

theorem C02_removed_load_justified (prev : Option Instr) (ins : Instr) (σ : Subst) (d : Nat) (o : Opd)
    (h : lasDecide prev ins σ = some (d, o)) :
    ∃ ty sc var sc' src, ins = .load d ty sc var ∧ prev = some (.store sc' var src) ∧ o = substOpd σ src :=
  lasDecide_some h

#print axioms C02_removed_load_justified

theorem C02_fold_sound (ty : ITy) (o c : Opd) (h : foldCast ty o = some c) (fr : Frame) :
    ∃ x y, evalOpd fr o = .ok x ∧ evalOpd fr c = .ok y ∧ castExec ty x = .ok y := by
  obtain ⟨x, y, hx, hy, hc⟩ := foldCast_sound h
  exact ⟨x, y, evalOpd_const hx, evalOpd_const hy, hc⟩

#print axioms C02_fold_sound

theorem C02_forward_sound (cf : String → List Val → Globals → Res) (code : List Instr) (pc : Nat) (fr : Frame)
    (g : Globals) (sc : Scope) (var : VarKey) (src : Opd) (d : Nat) (ty : ITy)
    (hs : code[pc]? = some (.store sc var src)) (hl : code[pc + 1]? = some (.load d ty sc var))
    (hty : ty.isAggregate = false) (pc1 : Nat) (fr1 : Frame) (g1 : Globals)
    (h1 : stepI cf code pc fr g = .next pc1 fr1 g1) :
    ∃ v, evalOpd fr src = .ok v ∧ pc1 = pc + 1 ∧ fr1.regs = fr.regs ∧
      stepI cf code (pc + 1) fr1 g1 = .next (pc + 2) (setReg fr1 d v) g1 := by
  obtain ⟨root, v, _, _, hroot, hv, _, hw, hout⟩ := step_store_inv hs h1 nofun
  cases hout
  exact ⟨v, hv, rfl, writeRoot_regs hw, step_load hl hroot (readRoot_writeRoot hw) hty⟩

#print axioms C02_forward_sound

/-! ## Non-vacuity: `int x = a; if (x) …` and a folded cast -/
namespace C02Ex
def i32 : ITy := .sc .int
def code : List Instr := [
  .label 0,
  .newVar 1 i32 "x",
  .load 2 i32 .arg (.index 0),
  .cast 3 (.sc .float) (.cInt 2),
  .store .local (.name "x") (.ref 2),
  .load 5 i32 .local (.name "x"),
  .brc (.ref 5) 6 7,
  .label 6, .ret (some (.ref 3)),
  .label 7, .ret (some (.ref 5))]

/-- the cast is folded, the load forwarded, the branch and the return rewired -/
example : optCode code = [
  .label 0,
  .newVar 1 i32 "x",
  .load 2 i32 .arg (.index 0),
  .store .local (.name "x") (.ref 2),
  .brc (.ref 2) 6 7,
  .label 6, .ret (some (.cFlt (Float.ofInt 2))),
  .label 7, .ret (some (.ref 2))] := by rfl

example : forwardOK none (pass ccDecide code) = true := by rfl
end C02Ex

theorem C02_opt_correct (P : Program) (hok : ∀ f ∈ P.funcs, optOK f = true)
    (fuel : Nat) (name : String) (args : List Val) (g : Globals) (v : Val) (g' : Globals) (as : List Val)
    (h : VM.invoke P fuel name args g = .done v g' as) :
    VM.invoke (optProgram P) fuel name args g = .done v g' as := by
  rw [← h]
  exact optProgram_invoke_sim P hok fuel name args g (by rw [h]; intro e; cases e)

#print axioms C02_opt_correct

def C02_Statement_optOK : Prop :=
  ∀ (P : Program), (∀ f ∈ P.funcs, optOK f = true) →
  ∀ (fuel : Nat) (name : String) (args : List Val) (g : Globals) (v : Val) (g' : Globals) (as : List Val),
    VM.invoke P fuel name args g = .done v g' as →
    ∃ fuel', VM.invoke (optProgram P) fuel' name args g = .done v g' as

theorem C02_statement_optOK : C02_Statement_optOK :=
  fun P hok fuel name args g v g' as h => ⟨fuel, C02_opt_correct P hok fuel name args g v g' as h⟩

#print axioms C02_statement_optOK

theorem optOK_forwardOK (f : Func) (h : optOK f = true) : forwardOK none (pass ccDecide f.code) = true := by
  simp only [optOK, Bool.and_eq_true] at h
  exact h.1.2

#print axioms optOK_forwardOK

theorem C02_opt_correct_fail (P : Program) (hok : ∀ f ∈ P.funcs, optOK f = true)
    (fuel : Nat) (name : String) (args : List Val) (g : Globals) (e : Err) (hne : e ≠ .timeout)
    (h : VM.invoke P fuel name args g = .fail e) :
    VM.invoke (optProgram P) fuel name args g = .fail e := by
  rw [← h]
  exact optProgram_invoke_sim P hok fuel name args g (by rw [h]; intro e'; cases e'; exact hne rfl)

#print axioms C02_opt_correct_fail

/-- Larger fuel: the original executes the removed instructions in addition. -/
theorem C02_opt_complete (P : Program) (hok : ∀ f ∈ P.funcs, optOK f = true)
    (fuel : Nat) (name : String) (args : List Val) (g : Globals) (v : Val) (g' : Globals) (as : List Val)
    (h : VM.invoke (optProgram P) fuel name args g = .done v g' as) :
    ∃ fuel', fuel ≤ fuel' ∧ VM.invoke P fuel' name args g = .done v g' as := by
  obtain ⟨F, hle, hF⟩ := optProgram_invoke_conv P hok fuel name args g (by rw [h]; intro e; cases e)
  exact ⟨F, hle, by rw [hF, h]⟩

#print axioms C02_opt_complete

theorem C02_opt_complete_fail (P : Program) (hok : ∀ f ∈ P.funcs, optOK f = true)
    (fuel : Nat) (name : String) (args : List Val) (g : Globals) (e : Err) (hne : e ≠ .timeout)
    (h : VM.invoke (optProgram P) fuel name args g = .fail e) :
    ∃ fuel', fuel ≤ fuel' ∧ VM.invoke P fuel' name args g = .fail e := by
  obtain ⟨F, hle, hF⟩ := optProgram_invoke_conv P hok fuel name args g
    (by rw [h]; intro e'; cases e'; exact hne rfl)
  exact ⟨F, hle, by rw [hF, h]⟩

#print axioms C02_opt_complete_fail

/-! ## Non-vacuity: a loop, a folded cast inside the loop, a forwarded load, a call -/
namespace C02GlobalEx
def i32 : ITy := .sc .int

/-- `dec(a) = a - int(1)` -/
def dec : Func := { name := "dec", params := [("a", i32)], ret := i32, code := [
  .label 0,
  .load 1 i32 .arg (.index 0),
  .cast 2 i32 (.cInt 1),
  .bin 3 (.s .sub) i32 (.ref 1) (.ref 2),
  .ret (some (.ref 3))] }

/-- `x = n; while (x) { x = dec(x); last = x; } return float(2)` -/
def main : Func := { name := "main", params := [("n", i32)], ret := .sc .float, code := [
  .label 0,
  .newVar 1 i32 "x",
  .load 2 i32 .arg (.index 0),
  .store .local (.name "x") (.ref 2),
  .br 10,
  .label 10,
  .load 3 i32 .local (.name "x"),
  .brc (.ref 3) 11 12,
  .label 11,
  .load 4 i32 .local (.name "x"),
  .call 5 i32 "dec" [.ref 4],
  .store .local (.name "x") (.ref 5),
  .load 6 i32 .local (.name "x"),
  .store .global (.name "last") (.ref 6),
  .br 10,
  .label 12,
  .cast 7 (.sc .float) (.cInt 2),
  .ret (some (.ref 7))] }

def P : Program := { funcs := [main, dec], globals := [("last", i32)] }

example : (optFn main).code = [
  .label 0,
  .newVar 1 i32 "x",
  .load 2 i32 .arg (.index 0),
  .store .local (.name "x") (.ref 2),
  .br 10,
  .label 10,
  .load 3 i32 .local (.name "x"),
  .brc (.ref 3) 11 12,
  .label 11,
  .load 4 i32 .local (.name "x"),
  .call 5 i32 "dec" [.ref 4],
  .store .local (.name "x") (.ref 5),
  .store .global (.name "last") (.ref 5),
  .br 10,
  .label 12,
  .ret (some (.cFlt (Float.ofInt 2)))] := by rfl

theorem ok : ∀ f ∈ P.funcs, optOK f = true := by
  intro f hf
  simp only [P, List.mem_cons, List.not_mem_nil, or_false] at hf
  rcases hf with rfl | rfl <;> decide +kernel

theorem orig_run : VM.invoke P 30 "main" [.int 1] [("last", .int 7)] =
    .done (.flt (Float.ofInt 2)) [("last", .int 0)] [.int 1] := by rfl

example : VM.invoke (optProgram P) 30 "main" [.int 1] [("last", .int 7)] =
    .done (.flt (Float.ofInt 2)) [("last", .int 0)] [.int 1] :=
  C02_opt_correct P ok 30 "main" [.int 1] [("last", .int 7)] _ _ _ orig_run

/-- a defined failure: index error on a missing argument -/
theorem orig_fail : VM.invoke P 30 "main" [] [] = .fail (.internal "IndexError-arg") := by rfl

example : VM.invoke (optProgram P) 30 "main" [] [] = .fail (.internal "IndexError-arg") :=
  C02_opt_correct_fail P ok 30 "main" [] [] _ (by intro h; cases h) orig_fail

example : ∃ fuel', 25 ≤ fuel' ∧ VM.invoke P fuel' "main" [.int 1] [("last", .int 7)] =
    .done (.flt (Float.ofInt 2)) [("last", .int 0)] [.int 1] :=
  C02_opt_complete P ok 25 "main" [.int 1] [("last", .int 7)] _ _ _ (by rfl)

/-! ### The side condition `defsDistinct` is necessary

`bad` satisfies `blockLocal` and `forwardOK`, but reference 5 is defined in two blocks: once by a cast that is folded
and once by a load that is kept.  The substitution is global, so the use of the load's value is rewired to the folded
constant and the optimised function returns 7 instead of its argument. -/
def bad : Func := { name := "bad", params := [("a", i32)], ret := i32, code := [
  .label 0,
  .load 1 i32 .arg (.index 0),
  .brc (.ref 1) 1 2,
  .label 1,
  .cast 5 i32 (.cInt 7),
  .ret (some (.ref 5)),
  .label 2,
  .load 5 i32 .arg (.index 0),
  .ret (some (.ref 5))] }

def Pbad : Program := { funcs := [bad], globals := [] }

example : blockLocal [] bad.code = true ∧ forwardOK none (pass ccDecide bad.code) = true ∧
    defsDistinct bad.code = false ∧ optOK bad = false := ⟨rfl, rfl, rfl, rfl⟩
theorem bad_run : VM.invoke Pbad 20 "bad" [.int 0] [] = .done (.int 0) [] [.int 0] := by rfl
theorem bad_opt_run : VM.invoke (optProgram Pbad) 20 "bad" [.int 0] [] = .done (.int 7) [] [.int 0] := by rfl
example : VM.invoke Pbad 20 "bad" [.int 0] [] = .done (.int 0) [] [.int 0] := bad_run
example : VM.invoke (optProgram Pbad) 20 "bad" [.int 0] [] = .done (.int 7) [] [.int 0] := bad_opt_run
end C02GlobalEx

theorem C02_Statement_false : ¬ C02_Statement := by
  intro h
  obtain ⟨fuel', hf⟩ := h C02GlobalEx.Pbad
    (by intro f hf; simp only [C02GlobalEx.Pbad, List.mem_cons, List.not_mem_nil, or_false] at hf; subst hf; rfl)
    20 "bad" [.int 0] [] (.int 0) [] [.int 0] C02GlobalEx.bad_run
  have h7 := C02GlobalEx.bad_opt_run
  have a := invoke_mono_ne _ "bad" [.int 0] [] fuel' (max fuel' 20) (Nat.le_max_left _ _)
    (by rw [hf]; intro e; cases e)
  have b := invoke_mono_ne _ "bad" [.int 0] [] 20 (max fuel' 20) (Nat.le_max_right _ _)
    (by rw [h7]; intro e; cases e)
  rw [hf] at a
  rw [h7, a] at b
  simp at b

#print axioms C02_Statement_false

end Nsl
