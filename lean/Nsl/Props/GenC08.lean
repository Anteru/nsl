import Nsl.Gen.Grammar
/-!
# C08 table obligations: precedence table and the precedence PLY gives each binary production

Regenerated tables (`harness/extract.py`) are checked by `decide`; a change to the table in the Python
breaks the build of this file, and the check then searches for a failing input (DESIGN.md §2.3).
-/
namespace Nsl.GenObl
open Nsl.Gen

/-- 1-based level of a token in `NslParser.precedence` (0 = not in the table). -/
def levelOf (tok : String) : Nat :=
  match Grammar.precedence.findIdx? (fun p => p.2.contains tok) with
  | some i => i + 1
  | none => 0

/-- The language's six levels, loosest first (property C08). -/
def groups : List (List String) :=
  [["LOR"], ["LAND"], ["EQ", "NE"], ["LT", "LE", "GT", "GE"], ["PLUS", "MINUS"], ["TIMES", "DIVIDE", "MOD"]]

def binTokens : List String := groups.flatten

def spellingOf (tok : String) : String :=
  ((Grammar.spelling.find? (fun p => p.1 == tok)).map (·.2)).getD ""

theorem c08_spelling :
    binTokens.map spellingOf = ["||", "&&", "==", "!=", "<", "<=", ">", ">=", "+", "-", "*", "/", "%"] := by
  decide +kernel

/-- Tokens of one group share a level; groups are strictly ordered, loosest first. -/
theorem c08_levels_ordered :
    (groups.map fun gr => gr.map levelOf) = [[1], [2], [6, 6], [7, 7, 7, 7], [9, 9], [10, 10, 10]] := by
  decide +kernel

theorem c08_all_left : ∀ p ∈ Grammar.precedence, p.1 = "left" := by decide +kernel

def binaryProductions : List (String × List String × String × Nat) :=
  Grammar.productions.filter (fun p => p.1 == "binary_expression")

/-- The operator token of a binary production: its only RHS symbol that is an operator token. -/
def operatorOf (rhs : List String) : List String := rhs.filter (fun s => binTokens.contains s)

/-- **The precondition under which PLY applies the precedence table to a shift/reduce conflict:**
every plain `expression OP expression` production names exactly one operator terminal and PLY has
given the production that operator's level and associativity.  (The parenthesised productions end
in `)`; they are complete only after `)` has been shifted, where no shift/reduce conflict involves
them, so their own precedence is irrelevant.) -/
theorem c08_binary_productions_carry_level :
    ∀ p ∈ binaryProductions, p.2.1.length = 3 →
      (operatorOf p.2.1).length = 1 ∧ p.2.2.1 = "left" ∧
        p.2.2.2 = levelOf ((operatorOf p.2.1).headD "") ∧ levelOf ((operatorOf p.2.1).headD "") ≠ 0 := by
  decide +kernel

/-- Every operator has the plain production `expression OP expression` and the parenthesised one. -/
theorem c08_every_operator_has_production :
    ∀ t ∈ binTokens,
      (binaryProductions.any fun p => p.2.1 == ["expression", t, "expression"]) = true ∧
      (binaryProductions.any fun p => p.2.1 == ["(", "expression", t, "expression", ")"]) = true := by
  decide +kernel

/-- No other shapes of binary production exist (a parenthesised group contains an operator). -/
theorem c08_binary_production_shapes :
    ∀ p ∈ binaryProductions,
      (p.2.1.length = 3 ∧ p.2.1.head? = some "expression" ∧ p.2.1.getLast? = some "expression") ∨
      (p.2.1.length = 5 ∧ p.2.1.head? = some "(" ∧ p.2.1.getLast? = some ")") := by
  decide +kernel

/-- An assignment is right-recursive in `expression` and carries no precedence, so after `x =` the
parser keeps shifting: the right-hand side extends over the whole following expression. -/
theorem c08_assignment_right_recursive :
    (Grammar.productions.filter fun p => p.1 == "assignment_expression") =
      [("assignment_expression", ["unary_expression", "assignment_op", "expression"], "right", 0)] := by
  decide +kernel

end Nsl.GenObl

#print axioms Nsl.GenObl.c08_spelling
#print axioms Nsl.GenObl.c08_levels_ordered
#print axioms Nsl.GenObl.c08_all_left
#print axioms Nsl.GenObl.c08_binary_productions_carry_level
#print axioms Nsl.GenObl.c08_every_operator_has_production
#print axioms Nsl.GenObl.c08_binary_production_shapes
#print axioms Nsl.GenObl.c08_assignment_right_recursive
