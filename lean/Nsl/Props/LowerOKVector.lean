import Nsl.Proofs.LowerCores
import Nsl.Props.C04Sim
import Nsl.Props.C02
import Nsl.Props.LowerWF
/-!
# The lowering of the VECTOR core satisfies the optimiser's and the well-formedness side conditions

`Props/LowerOK.lean` / `Props/LowerOKStorage.lean` / `Props/LowerWF.lean` for vector and matrix programs — and more:
`defsDistinct` and `blockLocal` hold for EVERY module of the typed core.

* §0 general theorems.  `lower_defsDistinct_general`, `lower_blockLocal_general`: NO hypothesis (all expression forms,
  the recursive `lowerStore`, the row loops, every statement form).  `lower_forwardOK_general`, `lower_optOK_general`:
  under `ValueVars M` (no `var` node is annotated with an array/struct type — decidable) and `NoShadow M`.
  `lower_wfChecks_general`, `C14_lowered_wf_general`, `C14_lowered_optimised_wf_general`: under `FlowOK M` and
  `callsResolve M` (both decidable, both necessary — `Props/LowerWF.lean`).
* §1 the vector core: `VectorCore M → ValueVars M ∧ FlowOK M`, and with it the general theorems for `VectorCore M`.
  `C04_opt_compile_correct_vector`: the OPTIMISING compiler model is correct on the vector core (hypotheses of
  `C04_compile_correct_vector` plus `NoShadow M`).  `C14_lowered_wf_vector`, `C14_lowered_optimised_wf_vector`.
* §2 instances, and the necessity of `NoShadow` and `ValueVars`.
-/
namespace Nsl
open Core VM Lower Opt

/-! ## 0. Every module of the typed core -/

theorem lower_defsDistinct_general (M : Core.Module)
    (f : Func) (hf : f ∈ (Lower.lowerModule M).funcs) : defsDistinct f.code = true := by
  revert f; exact forall_lowerModule fun fd _ => lowerFn_defsDistinct_general fd

#print axioms lower_defsDistinct_general

theorem lower_blockLocal_general (M : Core.Module)
    (f : Func) (hf : f ∈ (Lower.lowerModule M).funcs) : blockLocal [] f.code = true := by
  revert f; exact forall_lowerModule fun fd _ => lowerFn_blockLocal_general fd

#print axioms lower_blockLocal_general

theorem lower_forwardOK_general (M : Core.Module) (hV : ValueVars M) (hS : NoShadow M)
    (f : Func) (hf : f ∈ (Lower.lowerModule M).funcs) : forwardOK none (pass ccDecide f.code) = true := by
  revert f; exact forall_lowerModule fun fd hfd => lowerFn_forwardOK_general fd (hV fd hfd) (hS fd hfd)

#print axioms lower_forwardOK_general

theorem lower_optOK_general (M : Core.Module) (hV : ValueVars M) (hS : NoShadow M)
    (f : Func) (hf : f ∈ (Lower.lowerModule M).funcs) : optOK f = true := by
  revert f; exact forall_lowerModule fun fd hfd => lowerFn_optOK_general fd (hV fd hfd) (hS fd hfd)

#print axioms lower_optOK_general

theorem lower_wfChecks_general (M : Core.Module) (hF : FlowOK M) (hC : Core.callsResolve M = true)
    (f : Func) (hf : f ∈ (Lower.lowerModule M).funcs) : wfChecks f (Lower.lowerModule M) = true :=
  lower_wfChecks_of_flowOK M hF hC f hf

#print axioms lower_wfChecks_general

theorem C14_lowered_wf_general (M : Core.Module) (hF : FlowOK M) (hC : Core.callsResolve M = true)
    (f : Func) (hf : f ∈ (Lower.lowerModule M).funcs) : WF.WF f (Lower.lowerModule M) :=
  wf_of_checks f (Lower.lowerModule M) (lower_wfChecks_general M hF hC f hf)

#print axioms C14_lowered_wf_general

theorem C14_lowered_optimised_wf_general (M : Core.Module) (hF : FlowOK M) (hC : Core.callsResolve M = true) :
    ∀ f' ∈ (Opt.optProgram (Lower.lowerModule M)).funcs, WF.WF f' (Opt.optProgram (Lower.lowerModule M)) :=
  optProgram_wf_of_checks (lower_wfChecks_general M hF hC)

#print axioms C14_lowered_optimised_wf_general

/-! ## 1. The vector core -/

theorem vectorCore_valueVars {M : Core.Module} (h : VectorCore M) : ValueVars M :=
  fun f hf => okFnV_valVarsS (h f hf)

theorem vectorCore_flowOK {M : Core.Module} (h : VectorCore M) : FlowOK M :=
  fun f hf => okFnV_flowS (h f hf)

set_option linter.unusedVariables false in
/-- `hM` is not used (`lower_defsDistinct_general` needs no hypothesis). -/
theorem lower_defsDistinct_vector (M : Core.Module) (hM : VectorCore M)
    (f : Func) (hf : f ∈ (Lower.lowerModule M).funcs) : defsDistinct f.code = true :=
  lower_defsDistinct_general M f hf

#print axioms lower_defsDistinct_vector

set_option linter.unusedVariables false in
/-- `hM` is not used (`lower_blockLocal_general` needs no hypothesis). -/
theorem lower_blockLocal_vector (M : Core.Module) (hM : VectorCore M)
    (f : Func) (hf : f ∈ (Lower.lowerModule M).funcs) : blockLocal [] f.code = true :=
  lower_blockLocal_general M f hf

#print axioms lower_blockLocal_vector

theorem lower_forwardOK_vector (M : Core.Module) (hM : VectorCore M) (hS : NoShadow M)
    (f : Func) (hf : f ∈ (Lower.lowerModule M).funcs) : forwardOK none (pass ccDecide f.code) = true :=
  lower_forwardOK_general M (vectorCore_valueVars hM) hS f hf

#print axioms lower_forwardOK_vector

theorem lower_optOK_vector (M : Core.Module) (hM : VectorCore M) (hS : NoShadow M)
    (f : Func) (hf : f ∈ (Lower.lowerModule M).funcs) : optOK f = true :=
  lower_optOK_general M (vectorCore_valueVars hM) hS f hf

#print axioms lower_optOK_vector

/-- The optimising compiler is correct on the vector core: hypotheses of `C04_compile_correct_vector` plus
`NoShadow M`; the conclusion is the same with `lowerModule M` replaced by `optProgram (lowerModule M)`. -/
theorem C04_opt_compile_correct_vector (M : Core.Module) (hM : VectorCore M) (hS : NoShadow M)
    (fuel : Nat) (name : String) (args : List Val) (g : Globals) (v : Val) (g' : Globals) (as : List Val)
    (hargs : HostArgsFit M name args) (hg : GlobalsFit M.globals g)
    (href : CoreSem.invoke M fuel name args g = .done v g' as) :
    ∃ fuel', VM.invoke (Opt.optProgram (Lower.lowerModule M)) fuel' name args g = .done v g' as :=
  (C04_compile_correct_vector M hM fuel name args g v g' as hargs hg href).imp fun fuel' h =>
    C02_opt_correct (lowerModule M) (lower_optOK_vector M hM hS) fuel' name args g v g' as h

#print axioms C04_opt_compile_correct_vector

def C04_opt_Statement (Domain : Core.Module → Prop) : Prop :=
  ∀ (M : Core.Module), Domain M →
  ∀ (fuel : Nat) (name : String) (args : List Val) (g : Globals) (v : Val) (g' : Globals) (as : List Val),
    HostArgsFit M name args → GlobalsFit M.globals g →
    CoreSem.invoke M fuel name args g = .done v g' as →
    ∃ fuel', VM.invoke (optProgram (lowerModule M)) fuel' name args g = .done v g' as

theorem C04_opt_statement_vector : C04_opt_Statement (fun M => VectorCore M ∧ NoShadow M) :=
  fun M hM fuel name args g v g' as ha hg href =>
    C04_opt_compile_correct_vector M hM.1 hM.2 fuel name args g v g' as ha hg href

#print axioms C04_opt_statement_vector

/-! ### Well-formedness at both optimisation levels (C14) -/

theorem lower_wfChecks_vector (M : Core.Module) (hM : VectorCore M) (hC : Core.callsResolve M = true)
    (f : Func) (hf : f ∈ (Lower.lowerModule M).funcs) : wfChecks f (Lower.lowerModule M) = true :=
  lower_wfChecks_general M (vectorCore_flowOK hM) hC f hf

#print axioms lower_wfChecks_vector

theorem C14_lowered_wf_vector (M : Core.Module) (hM : VectorCore M) (hC : Core.callsResolve M = true)
    (f : Func) (hf : f ∈ (Lower.lowerModule M).funcs) : WF.WF f (Lower.lowerModule M) :=
  wf_of_checks f (Lower.lowerModule M) (lower_wfChecks_vector M hM hC f hf)

#print axioms C14_lowered_wf_vector

theorem C14_lowered_optimised_wf_vector (M : Core.Module) (hM : VectorCore M) (hC : Core.callsResolve M = true) :
    ∀ f' ∈ (Opt.optProgram (Lower.lowerModule M)).funcs, WF.WF f' (Opt.optProgram (Lower.lowerModule M)) :=
  C14_lowered_optimised_wf_general M (vectorCore_flowOK hM) hC

#print axioms C14_lowered_optimised_wf_vector

theorem C14_statement_vector :
    ∀ (M : Core.Module), VectorCore M → Core.callsResolve M = true →
      (∀ f ∈ (lowerModule M).funcs, WF.WF f (lowerModule M)) ∧
      (∀ f' ∈ (optProgram (lowerModule M)).funcs, WF.WF f' (optProgram (lowerModule M))) :=
  fun M hM hC => ⟨C14_lowered_wf_vector M hM hC, C14_lowered_optimised_wf_vector M hM hC⟩

#print axioms C14_statement_vector

example (M : Core.Module) (_ : StorageCore M) : ∀ f ∈ (lowerModule M).funcs,
    defsDistinct f.code = true ∧ blockLocal [] f.code = true :=
  fun f hf => ⟨lower_defsDistinct_general M f hf, lower_blockLocal_general M f hf⟩

/-! ## 2. Instances -/
namespace LowerOKVEx
open C04SimEx

/-- The module of `C04SimEx` (swizzle write, `v + w * 2`, matrix·vector, element write in a loop, `rowsMM/MS/SM`,
`r[1][0] = 7`, `r[0].yx = …`, matrix product, a call with a constructed vector argument, the global vector `gacc`)
has no shadowing and all its calls resolve — both decided on the TYPED CORE. -/
theorem noShadow : NoShadow C04SimEx.M := by decide

theorem callsResolve_M : Core.callsResolve C04SimEx.M = true := by decide

example : ∀ f ∈ (lowerModule C04SimEx.M).funcs,
    defsDistinct f.code = true ∧ blockLocal [] f.code = true ∧ forwardOK none (pass ccDecide f.code) = true ∧
      optOK f = true :=
  fun f hf => ⟨lower_defsDistinct_vector _ vectorCore f hf, lower_blockLocal_vector _ vectorCore f hf,
    lower_forwardOK_vector _ vectorCore noShadow f hf, lower_optOK_vector _ vectorCore noShadow f hf⟩

theorem M_wf : ∀ f ∈ (lowerModule C04SimEx.M).funcs, WF.WF f (lowerModule C04SimEx.M) :=
  C14_lowered_wf_vector _ vectorCore callsResolve_M

theorem M_opt_wf : ∀ f' ∈ (optProgram (lowerModule C04SimEx.M)).funcs, WF.WF f' (optProgram (lowerModule C04SimEx.M)) :=
  C14_lowered_optimised_wf_vector _ vectorCore callsResolve_M

/-- The OPTIMISED lowered program computes the reference results of `f` and `g`. -/
example : ∃ fuel', VM.invoke (optProgram (lowerModule C04SimEx.M)) fuel' "f" args g0 =
    .done (li [239, 212, 85, 40]) [("gacc", li [40, 85, 212, 239])]
      [li [20, 2, 10, 4], li [10, 20, 30, 40], .list [li [1, 0, 0, 0], li [0, 2, 0, 0], li [0, 0, 3, 0], li [1, 1, 1, 1]]] :=
  C04_opt_compile_correct_vector C04SimEx.M vectorCore noShadow 40 "f" args g0 _ _ _ argsFit globalsFit ref_run

example : ∃ fuel', VM.invoke (optProgram (lowerModule C04SimEx.M)) fuel' "g" gargs g0 =
    .done (.list [li [6, 5], li [7, 264]]) [("gacc", li [700, 1000, 1500, 2200])] gargs :=
  C04_opt_compile_correct_vector C04SimEx.M vectorCore noShadow 40 "g" gargs g0 _ _ _ gargsFit globalsFit ref_run_g

#print axioms M_wf
#print axioms M_opt_wf

/-! ### A small vector function whose lowered code is optimised

`function demo(float4 v) -> float4 { float4 u = v; return u.wzyx; }` -/
def demo : FnDef := ⟨"demo", [("v", f4)], f4,
  .seq (.decl "u" f4 (some (va 0 f4))) (.ret (some (.swizzle f4 (vl "u" f4) [3, 2, 1, 0])))⟩

def Mdemo : Core.Module := ⟨[], [demo]⟩

theorem demo_code : (lowerFn demo).code =
    [.newVar 0 f4 "u", .load 1 f4 .arg (.index 0), .store .local (.name "u") (.ref 1),
     .load 3 f4 .local (.name "u"), .shuffle 4 f4 (.ref 3) (.ref 3) [3, 2, 1, 0], .ret (some (.ref 4))] := by
  simp [lowerFn, demo, lowerS, lowerE, va, vl]

theorem demo_ok : VectorCore Mdemo ∧ NoShadow Mdemo ∧ Core.callsResolve Mdemo = true := by decide

example : optOK (lowerFn demo) = true :=
  lower_optOK_vector Mdemo demo_ok.1 demo_ok.2.1 _ (by simp [lowerModule, Mdemo])

/-- Cross-check by evaluating the checker on `demo_code`. -/
example : optOK (lowerFn demo) = true := by
  simp only [optOK, demo_code]; decide +kernel

/-- the vector load after the store is forwarded into the shuffle (a vector is a value, not an alias) -/
example : (optFn (lowerFn demo)).code =
    [.newVar 0 f4 "u", .load 1 f4 .arg (.index 0), .store .local (.name "u") (.ref 1),
     .shuffle 4 f4 (.ref 1) (.ref 1) [3, 2, 1, 0], .ret (some (.ref 4))] := by
  simp only [optFn, demo_code]; rfl

/-! ### `NoShadow` is needed for `forwardOK` in the vector core too

`function shadow(float4 w) -> float4 { float4 x; x = w; return ::x; }` with a global `float4 x`: in the vector core
(the local `x` is declared, the global is declared), block-local and single-definition, but the store to the local is
directly followed by a load of the same key in the global scope. -/
def shadow : FnDef := ⟨"shadow", [("w", f4)], f4,
  .seq (.decl "x" f4 none)
  (.seq (.expr (.assign (vl "x" f4) (va 0 f4))) (.ret (some (.var .global (.name "x") f4))))⟩

def Mshadow : Core.Module := ⟨[("x", f4)], [shadow]⟩

theorem shadow_vectorCore : VectorCore Mshadow := by decide

theorem shadow_code : (lowerFn shadow).code =
    [.newVar 0 f4 "x", .load 1 f4 .arg (.index 0), .store .local (.name "x") (.ref 1),
     .load 3 f4 .global (.name "x"), .ret (some (.ref 3))] := by
  simp [lowerFn, shadow, lowerS, lowerE, lowerStore, va, vl]

theorem shadow_not_forwardOK :
    VectorCore Mshadow ∧ ¬ NoShadow Mshadow ∧
    ∃ f ∈ (lowerModule Mshadow).funcs, defsDistinct f.code = true ∧ blockLocal [] f.code = true ∧
      forwardOK none (pass ccDecide f.code) = false ∧ optOK f = false := by
  refine ⟨shadow_vectorCore, by decide, lowerFn shadow, by simp [lowerModule, Mshadow], ?_⟩
  refine ⟨lower_defsDistinct_vector _ shadow_vectorCore _ (by simp [lowerModule, Mshadow]),
    lower_blockLocal_vector _ shadow_vectorCore _ (by simp [lowerModule, Mshadow]), ?_, ?_⟩
  · rw [shadow_code]; decide +kernel
  · simp only [optOK, shadow_code]; decide +kernel

#print axioms shadow_not_forwardOK

/-! ### `ValueVars` is needed for the GENERAL `forwardOK` theorem (it is a consequence of `VectorCore`, not a hypothesis there)

`function agg() -> int { int a[3]; int b[3]; a = b; return a[0]; }` — a whole-array assignment, outside every core
predicate: no shadowing (all names are locals), yet the `store a` is directly followed by the aggregate `load a`
(an alias), which the optimiser model must not forward. -/
def arrT : ITy := .arr (.sc .int) [3]

def agg : FnDef := ⟨"agg", [], i32,
  .seq (.decl "a" arrT none)
  (.seq (.decl "b" arrT none)
  (.seq (.expr (.assign (vl "a" arrT) (vl "b" arrT)))
        (.ret (some (.index .arr i32 (vl "a" arrT) (.litI 0))))))⟩

def Magg : Core.Module := ⟨[], [agg]⟩

theorem agg_code : (lowerFn agg).code =
    [.newVar 0 arrT "a", .newVar 1 arrT "b", .load 2 arrT .local (.name "b"), .store .local (.name "a") (.ref 2),
     .load 4 arrT .local (.name "a"), .loadArr 5 i32 (.ref 4) (.cInt 0), .ret (some (.ref 5))] := by
  simp [lowerFn, agg, lowerS, lowerE, lowerStore, vl]

theorem agg_not_forwardOK :
    NoShadow Magg ∧ ¬ ValueVars Magg ∧
    ∃ f ∈ (lowerModule Magg).funcs, defsDistinct f.code = true ∧ blockLocal [] f.code = true ∧
      forwardOK none (pass ccDecide f.code) = false ∧ optOK f = false := by
  refine ⟨by decide, by decide, lowerFn agg, by simp [lowerModule, Magg], ?_⟩
  refine ⟨lower_defsDistinct_general Magg _ (by simp [lowerModule, Magg]),
    lower_blockLocal_general Magg _ (by simp [lowerModule, Magg]), ?_, ?_⟩
  · rw [agg_code]; decide +kernel
  · simp only [optOK, agg_code]; decide +kernel

#print axioms agg_not_forwardOK

end LowerOKVEx

end Nsl
