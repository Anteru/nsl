import Nsl.Model.Wasm
import Nsl.Model.WasmEval
import Nsl.Model.VM
import Nsl.Proofs.WasmEval
import Nsl.Proofs.WasmInt
import Nsl.Proofs.WasmUInt

/-!
# C06 — the WebAssembly backend agrees with the VM or refuses

Models: `Nsl.Model.Wasm` (`genWasm`), `Nsl.Model.WasmEval` (`evalFunc`, WebAssembly 1.0 execution
of the emitted subset; i32 values are kept modulo 2^32, f32 operations are abstract),
`Nsl.Model.VM` (`VM.run`, `VM.invoke`: the reference VM, which computes with unbounded integers).
-/

namespace Nsl.Wasm

/-- If some function of the program contains an instruction outside the supported subset
(`supported`: label markers, argument loads/stores, scalar `add sub mul div eq lt gt`, `return`),
the generator returns an error for the whole program. -/
theorem C06_refuses (P : List Func) (f : Func) (hf : f ∈ P)
    (h : ∃ i ∈ f.code, supported i = false) : ∃ e, genWasm P = .error e := by
  cases hg : genWasm P with
  | error e => exact ⟨e, rfl⟩
  | ok m =>
    obtain ⟨i, hi, hs⟩ := h
    rw [genWasmWith_supported hg f hf i hi] at hs
    cases hs
#print axioms C06_refuses

/-- Contrapositive: a generated module comes from a program all of whose instructions are
supported. -/
theorem C06_ok_supported (P : List Func) (m : WModule) (h : genWasm P = .ok m) :
    ∀ f ∈ P, ∀ i ∈ f.code, supported i = true :=
  genWasmWith_supported h
#print axioms C06_ok_supported

/-- The generator also refuses a function whose returns do not match its signature (a value of another type, a missing
value, a value in a `void` function) or that has a result but no `return` at all: whatever it emits passed `retOK`. -/
theorem C06_returns_checked (P : List Func) (m : WModule) (h : genWasm P = .ok m) (idx : Nat) (f : Func)
    (hf : P[idx]? = some f) :
    ∃ ft ents, m.types[idx]? = some ft ∧ collectEntries f.params f.code [] = .ok ents ∧
      retOK ft.results ents f.code = true := by
  obtain ⟨ft, c, hgf, htypes, _, _⟩ := genWasmWith_getElem h hf
  obtain ⟨ents, _, _, _, he, _, _, hr, _⟩ := genFunc_ok hgf
  exact ⟨ft, ents, htypes, he, hr⟩
#print axioms C06_returns_checked

example : (match genWasm [⟨"h", [("a", .sc .float)], .sc .int,
    [.load 1 (.sc .float) .arg (.index 0), .ret (some (.ref 1))]⟩] with | .ok _ => false | .error _ => true) = true := by
  decide +kernel

/-- No instruction is dropped silently: the only IR items that translate to no WebAssembly
instruction are the basic-block label markers (which are not instructions in the Python IR). -/
theorem C06_no_silent_drop (fb : Float → Option Nat) (argc : Nat) (ents : List Entry) (i : Instr)
    (ws : List WInstr) (h : transInstr fb argc ents i = .ok ws) (hl : ∀ l, i ≠ .label l) :
    ws ≠ [] := by
  cases transInstr_ok h with
  | label => exact absurd rfl (hl _)
  | _ => nofun
#print axioms C06_no_silent_drop

/-- For an integer function whose body is straight-line code over `+ - *` on arguments, earlier
results and integer constants, with loads and stores of arguments (`ringFunc`): whenever the VM
returns the integer `v` on integer arguments, the generated WebAssembly function, run on the
arguments reduced modulo 2^32, returns `v` reduced modulo 2^32.  (The VM computes with unbounded
integers, WebAssembly with 32-bit wrap-around.)

`Pg` (the program in which the VM resolves calls) is arbitrary: ring code contains no calls. -/
theorem C06_agree_ring {F : Type} (O : F32Ops F) (P : List Func) (m : WModule) (idx : Nat)
    (f : Func) (hgen : genWasm P = .ok m) (hf : P[idx]? = some f) (hring : ringFunc f = true)
    (args : List Int) (hlen : args.length = f.params.length)
    (Pg : Program) (fuel : Nat) (g g' : VM.Globals) (v : Int) (as : List Val)
    (hvm : VM.run Pg fuel f 0 { args := args.map Val.int } g = .done (.int v) g' as) :
    evalFunc O m idx (args.map fun a => WVal.i32 (wrap a)) = some [WVal.i32 (wrap v)] := by
  simp only [ringFunc, Bool.and_eq_true, List.all_eq_true] at hring
  exact agree_straight O (fun ents _ => opAgree_ring O ents) hgen hf hring.1.1 hring.1.2
    (fun i hi => ringInstr_straight (hring.2 i hi)) args hlen (fun _ _ => rfl)
    (Reaches.of_run frameAll.trivial hvm)
#print axioms C06_agree_ring

/-- The same through `VM.invoke` (the VM's entry point) for the program itself. -/
theorem C06_agree_ring_invoke {F : Type} (O : F32Ops F) (P : List Func) (globals : List (String × ITy))
    (m : WModule) (idx : Nat) (f : Func) (hgen : genWasm P = .ok m) (hf : P[idx]? = some f)
    (hfind : (Program.mk P globals).find f.name = some f)
    (hring : ringFunc f = true) (args : List Int) (hlen : args.length = f.params.length)
    (fuel : Nat) (g g' : VM.Globals) (v : Int) (as : List Val)
    (hvm : VM.invoke ⟨P, globals⟩ fuel f.name (args.map Val.int) g = .done (.int v) g' as) :
    evalFunc O m idx (args.map fun a => WVal.i32 (wrap a)) = some [WVal.i32 (wrap v)] := by
  unfold VM.invoke at hvm
  rw [hfind] at hvm
  exact C06_agree_ring O P m idx f hgen hf hring args hlen _ fuel g g' v as hvm
#print axioms C06_agree_ring_invoke

/-- `runR` is `VM.run` with one check added after every step — every argument and value reference of the frame is a
signed 32-bit number (`frameS32`) — and nothing else: a finished range-checked run is a finished run of the VM with
the same result.  "The VM run stays inside the i32 domain" is the hypothesis `runR … = .done …`. -/
theorem C06_range_checked_run_is_run (Pg : Program) (fuel : Nat) (f : Func) (pc : Nat) (fr : VM.Frame)
    (g g' : VM.Globals) (v : Val) (as : List Val) (h : runR Pg fuel f pc fr g = .done v g' as) :
    VM.run Pg fuel f pc fr g = .done v g' as :=
  runR_run fuel h
#print axioms C06_range_checked_run_is_run

/-- For a function with `int` parameters and result whose body is straight-line code over `+ - * / == < >` on
arguments, earlier results and integer constants, with loads and stores of arguments (`intFunc`), and ALL arguments
that are signed 32-bit numbers: whenever the VM run stays inside the signed 32-bit domain and returns `v`, the
generated WebAssembly function returns `v` (as the i32 `v mod 2^32`).  In particular it does not trap: a division by
zero makes the VM fail, and `-2^31 / -1` leaves the domain. -/
theorem C06_agree_int {F : Type} (O : F32Ops F) (P : List Func) (m : WModule) (idx : Nat)
    (f : Func) (hgen : genWasm P = .ok m) (hf : P[idx]? = some f) (hint : intFunc f = true)
    (args : List Int) (hlen : args.length = f.params.length) (hargs : ∀ a ∈ args, inS32 a)
    (Pg : Program) (fuel : Nat) (g g' : VM.Globals) (v : Int) (as : List Val)
    (hvm : runR Pg fuel f 0 { args := args.map Val.int } g = .done (.int v) g' as) :
    VM.run Pg fuel f 0 { args := args.map Val.int } g = .done (.int v) g' as ∧
    evalFunc O m idx (args.map fun a => WVal.i32 (wrap a)) = some [WVal.i32 (wrap v)] := by
  simp only [intFunc, Bool.and_eq_true, List.all_eq_true] at hint
  exact ⟨runR_run fuel hvm, agree_straight O (fun _ he => opAgree_int O he) hgen hf
    (fun q hq => isIntTy_eq (hint.1.1 q hq)) (isIntTy_eq hint.1.2)
    (fun i hi => intInstr_straight (hint.2 i hi)) args hlen
    (fun a ha => decide_eq_true (hargs a ha)) (Reaches.of_runR hvm)⟩
#print axioms C06_agree_int

/-- The unsigned counterpart (`uint` parameters and result, `uintFunc`; `runRU` = `VM.run` plus the check that every
value stays in `[0, 2^32)`): whenever the VM run stays inside the unsigned 32-bit domain and returns `v`, the generated
function returns `v` — with `i32.div_u`, `i32.lt_u`, `i32.gt_u` selected, which matters for values ≥ 2^31. -/
theorem C06_agree_uint {F : Type} (O : F32Ops F) (P : List Func) (m : WModule) (idx : Nat)
    (f : Func) (hgen : genWasm P = .ok m) (hf : P[idx]? = some f) (hint : uintFunc f = true)
    (args : List Int) (hlen : args.length = f.params.length) (hargs : ∀ a ∈ args, inU32 a)
    (Pg : Program) (fuel : Nat) (g g' : VM.Globals) (v : Int) (as : List Val)
    (hvm : runRU Pg fuel f 0 { args := args.map Val.int } g = .done (.int v) g' as) :
    VM.run Pg fuel f 0 { args := args.map Val.int } g = .done (.int v) g' as ∧
    evalFunc O m idx (args.map fun a => WVal.i32 (wrap a)) = some [WVal.i32 (wrap v)] := by
  simp only [uintFunc, Bool.and_eq_true, List.all_eq_true] at hint
  exact ⟨runRU_run fuel hvm, agree_straight O (fun _ he => opAgree_uint O he) hgen hf
    (fun q hq => isUIntTy_eq (hint.1.1 q hq)) (isUIntTy_eq hint.1.2)
    (fun i hi => uintInstr_straight (hint.2 i hi)) args hlen
    (fun a ha => decide_eq_true (hargs a ha)) (Reaches.of_runRU hvm)⟩
#print axioms C06_agree_uint

/-- Signed operands (`int`): for every scalar operation the generator translates, if both VM
operands are signed 32-bit numbers and the VM computes the integer `z` (in particular the divisor is
not zero), the selected WebAssembly instruction applied to the operands modulo 2^32 yields `z`
modulo 2^32 — except for the one overflowing division `-2^31 / -1`, where WebAssembly traps. -/
theorem C06_binop_agree_partial {F : Type} (O : F32Ops F) (op : SOp) (nop : NumOp) (x y z : Int)
    (hsel : numOpFor op .i32s = .ok nop) (hx : inS32 x) (hy : inS32 y)
    (hov : ¬ (op = .div ∧ x = -2147483648 ∧ y = -1))
    (hvm : scalarBin op true (.int x) (.int y) = .ok (.int z)) :
    evalNum O nop (.i32 (wrap x)) (.i32 (wrap y)) = some (.i32 (wrap z)) :=
  binop_agree_signed O op nop x y z hsel hx hy hov hvm
#print axioms C06_binop_agree_partial

/-- Unsigned operands (`uint`), values in `[0, 2^32)`. -/
theorem C06_binop_agree_unsigned_partial {F : Type} (O : F32Ops F) (op : SOp) (nop : NumOp)
    (x y z : Int) (hsel : numOpFor op .i32u = .ok nop) (hx : inU32 x) (hy : inU32 y)
    (hvm : scalarBin op true (.int x) (.int y) = .ok (.int z)) :
    evalNum O nop (.i32 (wrap x)) (.i32 (wrap y)) = some (.i32 (wrap z)) :=
  binop_agree_unsigned O op nop x y z hsel hx hy hvm
#print axioms C06_binop_agree_unsigned_partial

/-- Division by zero: the VM reports `divZero`, both WebAssembly divisions trap. -/
theorem C06_div_zero_partial {F : Type} (O : F32Ops F) (x : Int) :
    scalarBin .div true (.int x) (.int 0) = .error .divZero ∧
    evalNum O .i32DivS (.i32 (wrap x)) (.i32 (wrap 0)) = none ∧
    evalNum O .i32DivU (.i32 (wrap x)) (.i32 (wrap 0)) = none := by
  simp [scalarBin, evalNum, wrap]
#print axioms C06_div_zero_partial

/-- The overflow case really differs: the VM returns `2^31`, WebAssembly traps. -/
example : scalarBin .div true (.int (-2147483648)) (.int (-1)) = .ok (.int 2147483648) :=
  div_overflow

example : evalNum (F := Unit) ⟨fun _ => (), fun _ _ => (), fun _ _ => (), fun _ _ => (),
    fun _ _ => (), fun _ _ => true, fun _ _ => true, fun _ _ => true⟩
    .i32DivS (.i32 (wrap (-2147483648))) (.i32 (wrap (-1))) = none := by decide +kernel

/-- Trivial f32 operations (ring code never uses them). -/
def O0 : F32Ops Unit :=
  ⟨fun _ => (), fun _ _ => (), fun _ _ => (), fun _ _ => (), fun _ _ => (),
   fun _ _ => true, fun _ _ => true, fun _ _ => true⟩

/-- `int r(int a, int b) { b = a * b + 7 - a; return b * b; }` after lowering. -/
def exRing : Func := ⟨"r", [("a", .sc .int), ("b", .sc .int)], .sc .int,
  [.label 0,
   .load 1 (.sc .int) .arg (.index 0), .load 2 (.sc .int) .arg (.index 1),
   .bin 3 (.s .mul) (.sc .int) (.ref 1) (.ref 2),
   .bin 4 (.s .add) (.sc .int) (.ref 3) (.cInt 7),
   .load 5 (.sc .int) .arg (.index 0),
   .bin 6 (.s .sub) (.sc .int) (.ref 4) (.ref 5),
   .store .arg (.index 1) (.ref 6),
   .load 7 (.sc .int) .arg (.index 1),
   .bin 8 (.s .mul) (.sc .int) (.ref 7) (.ref 7),
   .ret (some (.ref 8))]⟩

example : ringFunc exRing = true := by decide +kernel

/-- The generated module (no float constants, so `genWasm` computes in the kernel). -/
def exRingModule : WModule where
  types := [⟨[.i32, .i32], [.i32]⟩]
  funcs := [0]
  tables := [0]
  exports := [⟨"r", 0⟩]
  codes :=
    [⟨[(9, .i32)],
      [.localGet 0, .localSet 2, .localGet 1, .localSet 3,
       .localGet 2, .localGet 3, .num .i32Mul, .localSet 4,
       .localGet 4, .i32Const 7, .num .i32Add, .localSet 5,
       .localGet 0, .localSet 6,
       .localGet 5, .localGet 6, .num .i32Sub, .localSet 7,
       .localGet 7, .localSet 1,
       .localGet 1, .localSet 9,
       .localGet 9, .localGet 9, .num .i32Mul, .localSet 10,
       .localGet 10, .ret]⟩]

theorem exRing_gen : genWasm [exRing] = .ok exRingModule := by decide +kernel

/-- The VM on `(3, 4)`: `(3*4+7-3)^2 = 256`. -/
theorem exRing_vm_small : VM.run ⟨[exRing], []⟩ 20 exRing 0 { args := [3, 4].map Val.int } [] =
    .done (.int 256) [] [.int 3, .int 16] := by rfl

/-- What `C06_agree_ring` then says about the generated code (also checked by computation). -/
example : evalFunc O0 exRingModule 0 ([3, 4].map fun a => WVal.i32 (wrap a)) =
    some [WVal.i32 (wrap 256)] :=
  C06_agree_ring O0 [exRing] exRingModule 0 exRing exRing_gen rfl (by decide +kernel) [3, 4] rfl
    ⟨[exRing], []⟩ 20 [] [] 256 _ exRing_vm_small

example : evalFunc O0 exRingModule 0 [.i32 3, .i32 4] = some [.i32 256] := by decide +kernel

/-- Wrap-around: on `(100000, 100000)` the VM returns `(10^10 + 7 - 10^5)^2`, the WebAssembly code
that number modulo 2^32. -/
theorem exRing_vm_big :
    VM.run ⟨[exRing], []⟩ 20 exRing 0 { args := [100000, 100000].map Val.int } [] =
    .done (.int 99998000149998600049) [] [.int 100000, .int 9999900007] := by rfl

example : evalFunc O0 exRingModule 0 [.i32 100000, .i32 100000] = some [.i32 102760305] ∧
    wrap 99998000149998600049 = 102760305 := by decide +kernel

/-- `int q(int a, int b) { a = a / b; return (a < b) + (a == 7); }` after lowering. -/
def exSInt : Func := ⟨"q", [("a", .sc .int), ("b", .sc .int)], .sc .int,
  [.label 0,
   .load 1 (.sc .int) .arg (.index 0), .load 2 (.sc .int) .arg (.index 1),
   .bin 3 (.s .div) (.sc .int) (.ref 1) (.ref 2),
   .store .arg (.index 0) (.ref 3),
   .load 4 (.sc .int) .arg (.index 0), .load 5 (.sc .int) .arg (.index 1),
   .bin 6 (.s .lt) (.sc .int) (.ref 4) (.ref 5),
   .load 7 (.sc .int) .arg (.index 0),
   .bin 8 (.s .eq) (.sc .int) (.ref 7) (.cInt 7),
   .bin 9 (.s .add) (.sc .int) (.ref 6) (.ref 8),
   .ret (some (.ref 9))]⟩

example : intFunc exSInt = true := by decide +kernel

def exSIntModule : WModule where
  types := [⟨[.i32, .i32], [.i32]⟩]
  funcs := [0]
  tables := [0]
  exports := [⟨"q", 0⟩]
  codes :=
    [⟨[(10, .i32)],
      [.localGet 0, .localSet 2, .localGet 1, .localSet 3,
       .localGet 2, .localGet 3, .num .i32DivS, .localSet 4,
       .localGet 4, .localSet 0,
       .localGet 0, .localSet 6, .localGet 1, .localSet 7,
       .localGet 6, .localGet 7, .num .i32LtS, .localSet 8,
       .localGet 0, .localSet 9,
       .localGet 9, .i32Const 7, .num .i32Eq, .localSet 10,
       .localGet 8, .localGet 10, .num .i32Add, .localSet 11,
       .localGet 11, .ret]⟩]

theorem exSInt_gen : genWasm [exSInt] = .ok exSIntModule := by decide +kernel

/-- The range-checked VM on `(-15, 2)`: `-15 / 2 = -7` (truncation), `(-7 < 2) + (-7 == 7) = 1`. -/
theorem exSInt_vm : runR ⟨[exSInt], []⟩ 20 exSInt 0 { args := [-15, 2].map Val.int } [] =
    .done (.int 1) [] [.int (-7), .int 2] := by rfl

example : evalFunc O0 exSIntModule 0 ([-15, 2].map fun a => WVal.i32 (wrap a)) =
    some [WVal.i32 (wrap 1)] :=
  (C06_agree_int O0 [exSInt] exSIntModule 0 exSInt exSInt_gen rfl (by decide +kernel) [-15, 2] rfl
    (by intro a ha; simp at ha; rcases ha with rfl | rfl <;> (unfold inS32; omega))
    ⟨[exSInt], []⟩ 20 [] [] 1 _ exSInt_vm).2

/-- Outside the domain the hypothesis fails, as it must: `-2^31 / -1`. -/
example : runR ⟨[exSInt], []⟩ 20 exSInt 0 { args := [-2147483648, -1].map Val.int } [] =
    .fail (.unsupported "outside-i32") := by rfl

/-- `uint u(uint a, uint b) { return (a / b) + (a > b); }` after lowering. -/
def exUInt : Func := ⟨"u", [("a", .sc .uint), ("b", .sc .uint)], .sc .uint,
  [.label 0,
   .load 1 (.sc .uint) .arg (.index 0), .load 2 (.sc .uint) .arg (.index 1),
   .bin 3 (.s .div) (.sc .uint) (.ref 1) (.ref 2),
   .load 4 (.sc .uint) .arg (.index 0), .load 5 (.sc .uint) .arg (.index 1),
   .bin 6 (.s .gt) (.sc .uint) (.ref 4) (.ref 5),
   .bin 7 (.s .add) (.sc .uint) (.ref 3) (.ref 6),
   .ret (some (.ref 7))]⟩

example : uintFunc exUInt = true := by decide +kernel

/-- On `(3000000000, 7)` — the first argument is ≥ 2^31, so signed instructions would be wrong. -/
theorem exUInt_vm : runRU ⟨[exUInt], []⟩ 20 exUInt 0 { args := [3000000000, 7].map Val.int } [] =
    .done (.int 428571429) [] [.int 3000000000, .int 7] := by rfl

def exUIntModule : WModule where
  types := [⟨[.i32, .i32], [.i32]⟩]
  funcs := [0]
  tables := [0]
  exports := [⟨"u", 0⟩]
  codes :=
    [⟨[(7, .i32)],
      [.localGet 0, .localSet 2, .localGet 1, .localSet 3,
       .localGet 2, .localGet 3, .num .i32DivU, .localSet 4,
       .localGet 0, .localSet 5, .localGet 1, .localSet 6,
       .localGet 5, .localGet 6, .num .i32GtU, .localSet 7,
       .localGet 4, .localGet 7, .num .i32Add, .localSet 8,
       .localGet 8, .ret]⟩]

theorem exUInt_gen : genWasm [exUInt] = .ok exUIntModule := by decide +kernel

example : evalFunc O0 exUIntModule 0 ([3000000000, 7].map fun a => WVal.i32 (wrap a)) =
    some [WVal.i32 (wrap 428571429)] :=
  (C06_agree_uint O0 [exUInt] exUIntModule 0 exUInt exUInt_gen rfl (by decide +kernel) [3000000000, 7] rfl
    (by intro a ha; simp at ha; rcases ha with rfl | rfl <;> (unfold inU32; omega))
    ⟨[exUInt], []⟩ 20 [] [] 428571429 _ exUInt_vm).2

/-- Refusal on a concrete program: a `mod`. -/
example : (match genWasm [⟨"h", [("a", .sc .int)], .sc .int,
    [.load 1 (.sc .int) .arg (.index 0), .bin 2 (.s .mod) (.sc .int) (.ref 1) (.cInt 3),
     .ret (some (.ref 2))]⟩] with | .ok _ => false | .error _ => true) = true := by decide +kernel

end Nsl.Wasm
