import Nsl.Proofs.LowerWF
import Nsl.Props.C14Opt
import Nsl.Props.C01Storage
/-!
# The lowering model only produces WELL-FORMED IR (C14)

`Opt.wfChecks` has five conjuncts.  Each holds of every function of `Lower.lowerModule M`:
* `blockLocal`, `defsDistinct`, `labelsDistinct` – for EVERY module of the typed core, without hypothesis
  (`lower_labelsDistinct_general`; the other two are in `Props/LowerOK*.lean`);
* `lower_targetsOK_general` – every branch target is a marker of the same function, if `break`/`continue` occur inside
  loops only (`FlowOK`, property C11);
* `lower_callsOK_general` – every call names a function of the lowered program with the right number of arguments,
  under `FlowOK` and the DECIDABLE hypothesis `Core.callsResolve M` on the typed core (what overload resolution
  guarantees).
Vectors, matrices, swizzles and constructors are included.  Both hypotheses are needed (§4).

The scalar and the storage core (local arrays and structs) satisfy `FlowOK`, so that for them `lower_wfChecks`,
`C14_lowered_wf` (via `wf_of_checks`) and `C14_lowered_optimised_wf` (via `C14_opt_preserves_checks`; neither
`forwardOK` nor `NoShadow` is needed for well-formedness) hold under `callsResolve` alone: every IR module the compiler
model produces for a scalar-core program, at either optimisation level, is `WF` — for ALL programs.  The same three
theorems for the storage core: `…_storageH`.
-/
namespace Nsl
open Core VM Lower Opt

/-! ## 1. Every module of the typed core -/

theorem lower_labelsDistinct_general (M : Core.Module)
    (f : Func) (hf : f ∈ (Lower.lowerModule M).funcs) : labelsDistinct f.code = true := by
  revert f; exact forall_lowerModule fun fd _ => lowerFn_labelsDistinct_general fd

#print axioms lower_labelsDistinct_general

/-- `break`/`continue` occur inside loops only (what `ValidateFlowStatements` checks, property C11). -/
def FlowOK (M : Core.Module) : Prop := ∀ f ∈ M.fns, flowS false f.body = true

instance (M : Core.Module) : Decidable (FlowOK M) := by unfold FlowOK; exact inferInstance

theorem storageCore_flowOK {M : Core.Module} (h : StorageCore M) : FlowOK M :=
  fun f hf => okSS_flowS (envOf f.body) f.body false (h f hf)

theorem scalarCore_flowOK {M : Core.Module} (h : ScalarCore M) : FlowOK M :=
  storageCore_flowOK (scalarCore_storageCore h)

theorem lower_targetsOK_general (M : Core.Module) (hF : FlowOK M)
    (f : Func) (hf : f ∈ (Lower.lowerModule M).funcs) : targetsOK f.code = true := by
  revert f; exact forall_lowerModule fun fd hfd => lowerFn_targetsOK_anySig fd (hF fd hfd)

#print axioms lower_targetsOK_general

theorem lower_callsOK_general (M : Core.Module) (hF : FlowOK M) (hC : Core.callsResolve M = true)
    (f : Func) (hf : f ∈ (Lower.lowerModule M).funcs) : callsOK f (Lower.lowerModule M) = true := by
  revert f; exact forall_lowerModule fun fd hfd => lowerFn_callsOK M fd (hF fd hfd) (callsResolve_fn hC hfd)

#print axioms lower_callsOK_general

theorem Lower.lowerFn_wfChecks (M : Core.Module) (fd : FnDef) (hfl : flowS false fd.body = true)
    (hc : callsS (resolves M) fd.body = true) : wfChecks (lowerFn fd) (lowerModule M) = true := by
  simp only [wfChecks, Bool.and_eq_true]
  exact ⟨⟨⟨⟨lowerFn_blockLocal_general fd, lowerFn_defsDistinct_general fd⟩, lowerFn_labelsDistinct_general fd⟩,
    lowerFn_targetsOK_anySig fd hfl⟩, lowerFn_callsOK M fd hfl hc⟩

theorem lower_wfChecks_of_flowOK (M : Core.Module) (hF : FlowOK M) (hC : Core.callsResolve M = true)
    (f : Func) (hf : f ∈ (Lower.lowerModule M).funcs) : wfChecks f (Lower.lowerModule M) = true := by
  revert f; exact forall_lowerModule fun fd hfd => lowerFn_wfChecks M fd (hF fd hfd) (callsResolve_fn hC hfd)

/-- The optimiser preserves the five checks, so a program that passes them is well-formed after optimisation too. -/
theorem optProgram_wf_of_checks {P : Program} (h : ∀ f ∈ P.funcs, wfChecks f P = true) :
    ∀ f' ∈ (Opt.optProgram P).funcs, WF.WF f' (Opt.optProgram P) :=
  List.forall_mem_map.2 fun f hf => wf_of_checks _ _ (C14_opt_preserves_checks P f (h f hf))

/-! ## 2. Scalar core -/

set_option linter.unusedVariables false in
theorem lower_labelsDistinct (M : Core.Module) (hM : ScalarCore M)
    (f : Func) (hf : f ∈ (Lower.lowerModule M).funcs) : labelsDistinct f.code = true :=
  lower_labelsDistinct_general M f hf

#print axioms lower_labelsDistinct

theorem lower_targetsOK (M : Core.Module) (hM : ScalarCore M)
    (f : Func) (hf : f ∈ (Lower.lowerModule M).funcs) : targetsOK f.code = true :=
  lower_targetsOK_general M (scalarCore_flowOK hM) f hf

#print axioms lower_targetsOK

theorem lower_callsOK (M : Core.Module) (hM : ScalarCore M) (hC : Core.callsResolve M = true)
    (f : Func) (hf : f ∈ (Lower.lowerModule M).funcs) : callsOK f (Lower.lowerModule M) = true :=
  lower_callsOK_general M (scalarCore_flowOK hM) hC f hf

#print axioms lower_callsOK

theorem lower_wfChecks (M : Core.Module) (hM : ScalarCore M) (hC : Core.callsResolve M = true)
    (f : Func) (hf : f ∈ (Lower.lowerModule M).funcs) : wfChecks f (Lower.lowerModule M) = true :=
  lower_wfChecks_of_flowOK M (scalarCore_flowOK hM) hC f hf

#print axioms lower_wfChecks

/-- Every function of the lowered module is well-formed (declarative `WF`: unique definitions, unique labels, branch
targets exist, calls resolve with the right arity, definition before use on ALL control-flow paths). -/
theorem C14_lowered_wf (M : Core.Module) (hM : ScalarCore M) (hC : Core.callsResolve M = true)
    (f : Func) (hf : f ∈ (Lower.lowerModule M).funcs) : WF.WF f (Lower.lowerModule M) :=
  wf_of_checks f (Lower.lowerModule M) (lower_wfChecks M hM hC f hf)

#print axioms C14_lowered_wf

theorem C14_lowered_optimised_wf (M : Core.Module) (hM : ScalarCore M) (hC : Core.callsResolve M = true) :
    ∀ f' ∈ (Opt.optProgram (Lower.lowerModule M)).funcs, WF.WF f' (Opt.optProgram (Lower.lowerModule M)) :=
  optProgram_wf_of_checks (lower_wfChecks M hM hC)

#print axioms C14_lowered_optimised_wf

theorem C14_statement :
    ∀ (M : Core.Module), ScalarCore M → Core.callsResolve M = true →
      (∀ f ∈ (lowerModule M).funcs, WF.WF f (lowerModule M)) ∧
      (∀ f' ∈ (optProgram (lowerModule M)).funcs, WF.WF f' (optProgram (lowerModule M))) :=
  fun M hM hC => ⟨C14_lowered_wf M hM hC, C14_lowered_optimised_wf M hM hC⟩

#print axioms C14_statement

/-! ## 3. Storage core (local arrays and structs used as storage) -/

set_option linter.unusedVariables false in
theorem lower_defsDistinct_storageH (M : Core.Module) (hM : StorageCore M)
    (f : Func) (hf : f ∈ (Lower.lowerModule M).funcs) : defsDistinct f.code = true := by
  revert f; exact forall_lowerModule fun fd _ => lowerFn_defsDistinct_general fd

#print axioms lower_defsDistinct_storageH

set_option linter.unusedVariables false in
theorem lower_blockLocal_storageH (M : Core.Module) (hM : StorageCore M)
    (f : Func) (hf : f ∈ (Lower.lowerModule M).funcs) : blockLocal [] f.code = true := by
  revert f; exact forall_lowerModule fun fd _ => lowerFn_blockLocal_general fd

#print axioms lower_blockLocal_storageH

set_option linter.unusedVariables false in
theorem lower_labelsDistinct_storageH (M : Core.Module) (hM : StorageCore M)
    (f : Func) (hf : f ∈ (Lower.lowerModule M).funcs) : labelsDistinct f.code = true :=
  lower_labelsDistinct_general M f hf

#print axioms lower_labelsDistinct_storageH

theorem lower_targetsOK_storageH (M : Core.Module) (hM : StorageCore M)
    (f : Func) (hf : f ∈ (Lower.lowerModule M).funcs) : targetsOK f.code = true :=
  lower_targetsOK_general M (storageCore_flowOK hM) f hf

#print axioms lower_targetsOK_storageH

theorem lower_callsOK_storageH (M : Core.Module) (hM : StorageCore M) (hC : Core.callsResolve M = true)
    (f : Func) (hf : f ∈ (Lower.lowerModule M).funcs) : callsOK f (Lower.lowerModule M) = true :=
  lower_callsOK_general M (storageCore_flowOK hM) hC f hf

#print axioms lower_callsOK_storageH

theorem lower_wfChecks_storageH (M : Core.Module) (hM : StorageCore M) (hC : Core.callsResolve M = true)
    (f : Func) (hf : f ∈ (Lower.lowerModule M).funcs) : wfChecks f (Lower.lowerModule M) = true :=
  lower_wfChecks_of_flowOK M (storageCore_flowOK hM) hC f hf

#print axioms lower_wfChecks_storageH

theorem C14_lowered_wf_storageH (M : Core.Module) (hM : StorageCore M) (hC : Core.callsResolve M = true)
    (f : Func) (hf : f ∈ (Lower.lowerModule M).funcs) : WF.WF f (Lower.lowerModule M) :=
  wf_of_checks f (Lower.lowerModule M) (lower_wfChecks_storageH M hM hC f hf)

#print axioms C14_lowered_wf_storageH

theorem C14_lowered_optimised_wf_storageH (M : Core.Module) (hM : StorageCore M) (hC : Core.callsResolve M = true) :
    ∀ f' ∈ (Opt.optProgram (Lower.lowerModule M)).funcs, WF.WF f' (Opt.optProgram (Lower.lowerModule M)) :=
  optProgram_wf_of_checks (lower_wfChecks_storageH M hM hC)

#print axioms C14_lowered_optimised_wf_storageH

example (M : Core.Module) (hM : ScalarCore M) (hC : Core.callsResolve M = true) :
    ∀ f ∈ (lowerModule M).funcs, WF.WF f (lowerModule M) :=
  C14_lowered_wf_storageH M (scalarCore_storageCore hM) hC

/-! ## 4. Instances -/
namespace LowerWFEx

/-- `C01Ex.M` (three loop forms, break/continue, a recursive call, a call from `f` to `fact`, a global):
every call resolves — decided by evaluation of the checker on the TYPED CORE, not on the lowered code. -/
theorem callsResolve_M : Core.callsResolve C01Ex.M = true := by decide

example : ∀ f ∈ (lowerModule C01Ex.M).funcs, wfChecks f (lowerModule C01Ex.M) = true :=
  lower_wfChecks _ C01Ex.scalarCore callsResolve_M

theorem M_wf : ∀ f ∈ (lowerModule C01Ex.M).funcs, WF.WF f (lowerModule C01Ex.M) :=
  C14_lowered_wf _ C01Ex.scalarCore callsResolve_M

theorem M_opt_wf : ∀ f' ∈ (optProgram (lowerModule C01Ex.M)).funcs, WF.WF f' (optProgram (lowerModule C01Ex.M)) :=
  C14_lowered_optimised_wf _ C01Ex.scalarCore callsResolve_M

#print axioms M_wf
#print axioms M_opt_wf

example : WF.WF (lowerFn C01Ex.f) (lowerModule C01Ex.M) :=
  M_wf _ (by simp [lowerModule, C01Ex.M])

/-- A consequence spelled out: the recursive call inside the lowered `fact` resolves to a function of the lowered
program with one parameter. -/
example (i dst : Nat) (ty : ITy) (g : String) (args : List Opd)
    (h : (lowerFn C01Ex.fact).code[i]? = some (.call dst ty g args)) :
    ∃ callee, (lowerModule C01Ex.M).find g = some callee ∧ callee.params.length = args.length :=
  (M_wf (lowerFn C01Ex.fact) (by simp [lowerModule, C01Ex.M])).callsResolve i dst ty g args h

/-- Cross-check: the lowered code of `fact` made explicit (label markers 2, 3; the recursive call `%7`), and the
Boolean checker evaluated on it agrees with the theorem. -/
theorem fact_code : (lowerFn C01Ex.fact).code =
    [.load 0 C01Ex.i32 .arg (.index 0), .bin 1 (.s .le) C01Ex.i32 (.ref 0) (.cInt 1), .brc (.ref 1) 2 3, .label 2,
     .ret (some (.cInt 1)), .label 3,
     .load 5 C01Ex.i32 .arg (.index 0), .bin 6 (.s .sub) C01Ex.i32 (.ref 5) (.cInt 1),
     .call 7 C01Ex.i32 "fact" [.ref 6],
     .load 8 C01Ex.i32 .arg (.index 0), .bin 9 (.s .mul) C01Ex.i32 (.ref 7) (.ref 8), .ret (some (.ref 9))] := by
  simp [lowerFn, C01Ex.fact, lowerS, lowerE, lowerArgs, mkBin, fromOperation, Expr.ty, ITy.isMatrix, ITy.isScalar,
    C01Ex.va, C01Ex.b, C01Ex.i32, BOp.toSOp]

example : wfChecks (lowerFn C01Ex.fact) (lowerModule C01Ex.M) = true := by
  simp only [wfChecks, callsOK, fact_code]; decide

/-- The storage-core example (`int a[2][3]; P s; P ps[2];`, nested loops writing elements and fields). -/
theorem callsResolve_stor : Core.callsResolve C01StorEx.M = true := by decide

theorem stor_wf : ∀ f ∈ (lowerModule C01StorEx.M).funcs, WF.WF f (lowerModule C01StorEx.M) :=
  C14_lowered_wf_storageH _ C01StorEx.storageCore callsResolve_stor

theorem stor_opt_wf : ∀ f' ∈ (optProgram (lowerModule C01StorEx.M)).funcs,
    WF.WF f' (optProgram (lowerModule C01StorEx.M)) :=
  C14_lowered_optimised_wf_storageH _ C01StorEx.storageCore callsResolve_stor

#print axioms stor_wf

/-! ### Outside both cores: vectors, a swizzle store, a constructor, a call, `break` in a `while` -/

def v2 : ITy := .vec .float 2
def v3 : ITy := .vec .float 3
/-- `function one() -> float { return 1.0; }` -/
def one : FnDef := ⟨"one", [], .sc .float, .ret (some (.litF 1.0))⟩
/-- `function gen() { float3 v; while (1) { v.xy = float2(1.0, one()); break; } }` -/
def gen : FnDef := ⟨"gen", [], .void,
  .seq (.decl "v" v3 none)
    (.whileL (.litI 1)
      (.seq (.expr (.assign (.swizzle v2 (.var .local (.name "v") v3) [0, 1])
                (.construct v2 (.cons (.litF 1.0) (.cons (.call "one" (.sc .float) .nil) .nil)))))
            .brk))⟩
def Mgen : Core.Module := ⟨[], [one, gen]⟩

/-- Not in the storage core (hence not in the scalar core), yet three of the five conditions hold by the theorems. -/
theorem gen_general : ¬ StorageCore Mgen ∧
    ∀ f ∈ (lowerModule Mgen).funcs,
      labelsDistinct f.code = true ∧ targetsOK f.code = true ∧ callsOK f (lowerModule Mgen) = true := by
  have hF : FlowOK Mgen := by decide
  have hC : Core.callsResolve Mgen = true := by decide
  exact ⟨by decide, fun f hf => ⟨lower_labelsDistinct_general Mgen f hf, lower_targetsOK_general Mgen hF f hf,
    lower_callsOK_general Mgen hF hC f hf⟩⟩

#print axioms gen_general

/-! ### The hypotheses are needed -/

/-- `function h() -> int { return k(1, 2); }` with `function k(int a) -> int { return a; }`: wrong number of
arguments.  In the scalar core, but `callsResolve` rejects it, and indeed the lowered code fails `callsOK`. -/
def kFn : FnDef := ⟨"k", [("a", C01Ex.i32)], C01Ex.i32, .ret (some (C01Ex.va 0))⟩
def hBad : FnDef := ⟨"h", [], C01Ex.i32, .ret (some (.call "k" C01Ex.i32 (.cons (.litI 1) (.cons (.litI 2) .nil))))⟩
def badArity : Core.Module := ⟨[], [kFn, hBad]⟩

theorem hBad_code : (lowerFn hBad).code = [.call 0 C01Ex.i32 "k" [.cInt 1, .cInt 2], .ret (some (.ref 0))] := by
  simp [lowerFn, hBad, lowerS, lowerE, lowerArgs]

theorem badArity_rejected :
    ScalarCore badArity ∧ Core.callsResolve badArity = false ∧
    ∃ f ∈ (lowerModule badArity).funcs, callsOK f (lowerModule badArity) = false := by
  refine ⟨by decide, by decide, lowerFn hBad, by simp [lowerModule, badArity], ?_⟩
  simp only [callsOK, hBad_code]; decide

/-- A call of an unknown function. -/
def hNope : FnDef := ⟨"h", [], C01Ex.i32, .ret (some (.call "nope" C01Ex.i32 .nil))⟩
def badName : Core.Module := ⟨[], [hNope]⟩

theorem hNope_code : (lowerFn hNope).code = [.call 0 C01Ex.i32 "nope" [], .ret (some (.ref 0))] := by
  simp [lowerFn, hNope, lowerS, lowerE, lowerArgs]

theorem badName_rejected :
    ScalarCore badName ∧ Core.callsResolve badName = false ∧
    ∃ f ∈ (lowerModule badName).funcs, callsOK f (lowerModule badName) = false := by
  refine ⟨by decide, by decide, lowerFn hNope, by simp [lowerModule, badName], ?_⟩
  simp only [callsOK, hNope_code]; decide

/-- `break` outside a loop (excluded by `ScalarCore`/`StorageCore`/`FlowOK`): the lowering emits `br 0` and no marker
`0`, so `targetsOK` fails — the flow hypothesis of `lower_targetsOK_general` is needed. -/
def hBrk : FnDef := ⟨"h", [], .void, .brk⟩
def strayBreak : Core.Module := ⟨[], [hBrk]⟩

theorem hBrk_code : (lowerFn hBrk).code = [.br 0] := by
  simp [lowerFn, hBrk, lowerS]

theorem strayBreak_rejected :
    ¬ FlowOK strayBreak ∧ ¬ ScalarCore strayBreak ∧
    ∃ f ∈ (lowerModule strayBreak).funcs, targetsOK f.code = false := by
  refine ⟨by decide, by decide, lowerFn hBrk, by simp [lowerModule, strayBreak], ?_⟩
  rw [hBrk_code]; decide

#print axioms badArity_rejected
#print axioms badName_rejected
#print axioms strayBreak_rejected

end LowerWFEx

end Nsl
