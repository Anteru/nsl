import Nsl.Model.SrcMap
import Nsl.Proofs.SrcMap

/-!
# C20 – source positions

Model: `Nsl.SrcMap` (`SourceMapping`, `Location` of /repo/nsl/ast/__init__.py).
Spec helpers (defined in `Nsl.Proofs.SrcMap`):
* `dropLines n s` – `s` without its first `n` lines (each with its `'\n'`);
* `nlCount s`     – number of `'\n'` in `s`.

The guards `o ≤ s.length`, `b ≤ e`, `e ≤ s.length` that some statements carry (`_h`, `_hbe`, `_he`)
are not used: every fact holds for every offset.
-/

namespace Nsl.SrcMap

/-! ## 1. `bisect_right` -/

/-- On a sorted list the reference `bisectRight` is the number of entries `≤ x`. -/
theorem bisectRight_eq_count (a : List Nat) (hs : a.Pairwise (· ≤ ·)) (x : Nat) :
    bisectRight a x = a.countP (fun y => decide (y ≤ x)) :=
  bisectRight_eq_countP hs x
#print axioms bisectRight_eq_count

/-- CPython's binary-search loop computes the same insertion point on sorted lists. -/
theorem bisectRightBin_eq (a : List Nat) (hs : a.Pairwise (· ≤ ·)) (x : Nat) :
    bisectRightBin a x = bisectRight a x :=
  bisectLoop_eq hs x a.length 0 a.length (Nat.zero_le _) (bisectRight_le_length a x)
    (Nat.le_refl _) (Nat.le_of_eq (Nat.zero_add _).symm)
#print axioms bisectRightBin_eq

example : [0, 3, 4, 13].Pairwise (· ≤ ·) := by decide +kernel
example : bisectRightBin [0, 3, 4, 13] 4 = 3 ∧ bisectRight [0, 3, 4, 13] 4 = 3 := by decide +kernel

/-! ## 2. The offset table -/

theorem lineOffsets_sorted (s : List Char) : (lineOffsets s).Pairwise (· < ·) :=
  lineOffsets_sorted' s
#print axioms lineOffsets_sorted

theorem lineOffsets_length (s : List Char) :
    (lineOffsets s).length = (s.filter (· = '\n')).length + 1 := by
  rw [lineOffsets_eq, List.length_cons, nlPos_length]; rfl
#print axioms lineOffsets_length

theorem lineOffsets_head (s : List Char) : (lineOffsets s)[0]? = some 0 := by
  rw [lineOffsets_eq]; rfl
#print axioms lineOffsets_head

/-- The table is exactly: `0`, then `i+1` for every newline position `i`. -/
theorem lineOffsets_mem (s : List Char) (p : Nat) :
    p ∈ lineOffsets s ↔ p = 0 ∨ ∃ i, s[i]? = some '\n' ∧ p = i + 1 := by
  simp only [lineOffsets_eq, List.mem_cons, mem_nlPos, Nat.zero_add]
#print axioms lineOffsets_mem

/-! ## 3. Offset ↦ line -/

/-- `bisect_right(..) - 1` never underflows: the Nat subtraction in the model is exact. -/
theorem bisect_lineOffsets_pos (s : List Char) (o : Nat) : 1 ≤ bisectRight (lineOffsets s) o := by
  rw [bisect_lineOffsets]; omega
#print axioms bisect_lineOffsets_pos

/-- The computed line is a valid index of the table (so `getD`'s default is never used). -/
theorem lineFromOffset_in_range (s : List Char) (o : Nat) :
    lineFromOffset s o < (lineOffsets s).length ∧
    (lineOffsets s)[lineFromOffset s o]? = some (lineStart s (lineFromOffset s o)) :=
  ⟨lineFromOffset_lt s o, lineStart_getElem? s o⟩
#print axioms lineFromOffset_in_range

theorem lineFromOffset_eq_count_all (s : List Char) (o : Nat) :
    lineFromOffset s o = ((s.take o).filter (· = '\n')).length :=
  lineFromOffset_eq s o
#print axioms lineFromOffset_eq_count_all

/-- The line number is the number of newlines strictly before the offset. -/
theorem lineFromOffset_eq_count (s : List Char) (o : Nat) (_h : o ≤ s.length) :
    lineFromOffset s o = ((s.take o).filter (· = '\n')).length :=
  lineFromOffset_eq s o
#print axioms lineFromOffset_eq_count


/-! ## 4. Line ↦ start offset -/

theorem lineStart_le (s : List Char) (o : Nat) (_h : o ≤ s.length) :
    lineStart s (lineFromOffset s o) ≤ o :=
  lineStart_le_all s o
#print axioms lineStart_le

/-- The reported start offset really is the beginning of a line. -/
theorem lineStart_begins_line (s : List Char) (o : Nat) (_h : o ≤ s.length) :
    lineStart s (lineFromOffset s o) = 0 ∨
      s[lineStart s (lineFromOffset s o) - 1]? = some '\n' :=
  lineStart_is_start s o
#print axioms lineStart_begins_line

/-- … and it is the line of `o`: no newline between the line start and `o`. -/
theorem lineStart_no_newline (s : List Char) (o : Nat) (_h : o ≤ s.length) :
    ∀ i, lineStart s (lineFromOffset s o) ≤ i → i < o → s[i]? ≠ some '\n' :=
  fun i h1 h2 => no_newline_between s o i h1 h2
#print axioms lineStart_no_newline

theorem lineStart_spec (s : List Char) (o : Nat) :
    lineStart s (lineFromOffset s o) ≤ o ∧
    (lineStart s (lineFromOffset s o) = 0 ∨
      s[lineStart s (lineFromOffset s o) - 1]? = some '\n') ∧
    (∀ i, lineStart s (lineFromOffset s o) ≤ i → i < o → s[i]? ≠ some '\n') :=
  ⟨lineStart_le_all s o, lineStart_is_start s o, fun i h1 h2 => no_newline_between s o i h1 h2⟩
#print axioms lineStart_spec

/-! ## 5. Printed `line:column` ranges -/

/-- Start position: `l ≥ 1`, `c ≥ 1`; skipping `l-1` whole lines and then `c-1` characters
    of `s` lands exactly on offset `b`; and those `c-1` characters stay inside line `l`. -/
theorem format_start_designates (s : List Char) (b e : Nat) (_hbe : b ≤ e) (_he : e ≤ s.length)
    (l c : Nat) (ol : Option Nat) (c' : Nat) (hf : format s ⟨b, e⟩ = (l, c, ol, c')) :
    1 ≤ l ∧ 1 ≤ c ∧
    (dropLines (l - 1) s).drop (c - 1) = s.drop b ∧
    (∀ ch ∈ (dropLines (l - 1) s).take (c - 1), ch ≠ '\n') := by
  obtain ⟨rfl, rfl, -⟩ := format_spec hf
  simp only [Nat.add_sub_cancel]
  exact ⟨Nat.le_add_left .., Nat.le_add_left .., designates s b, column_in_line s b⟩
#print axioms format_start_designates

/-- End position; the end line is `l'` if printed, otherwise the start line `l`. -/
theorem format_end_designates (s : List Char) (b e : Nat) (_hbe : b ≤ e) (_he : e ≤ s.length)
    (l c : Nat) (ol : Option Nat) (c' : Nat) (hf : format s ⟨b, e⟩ = (l, c, ol, c')) :
    1 ≤ ol.getD l ∧ 1 ≤ c' ∧
    (dropLines (ol.getD l - 1) s).drop (c' - 1) = s.drop e ∧
    (∀ ch ∈ (dropLines (ol.getD l - 1) s).take (c' - 1), ch ≠ '\n') := by
  obtain ⟨-, -, hl, rfl, -⟩ := format_spec hf
  simp only [hl, Nat.add_sub_cancel]
  exact ⟨Nat.le_add_left .., Nat.le_add_left .., designates s e, column_in_line s e⟩
#print axioms format_end_designates

/-- The end line is the start line plus the number of newlines inside the entity's text;
    the short form `l:c-c'` is printed iff that number is zero. -/
theorem format_lines (s : List Char) (b e : Nat) (hbe : b ≤ e)
    (l c : Nat) (ol : Option Nat) (c' : Nat) (hf : format s ⟨b, e⟩ = (l, c, ol, c')) :
    ol.getD l = l + (((s.drop b).take (e - b)).filter (· = '\n')).length ∧
    (ol = none ↔ ∀ ch ∈ (s.drop b).take (e - b), ch ≠ '\n') := by
  obtain ⟨rfl, -, hl, -, hn⟩ := format_spec hf
  have hs := nlCount_span s b e hbe
  rw [← lineFromOffset_eq, ← lineFromOffset_eq] at hs
  rw [hl, hn, ← nlCount_eq_zero, hs]
  exact ⟨Nat.add_right_comm .., by omega⟩
#print axioms format_lines

/-- Single-line form `l:c-c'`: the entity contains no newline, the printed width equals the
    entity's length, and columns `c … c'-1` of line `l` are exactly the entity's characters. -/
theorem format_single_line (s : List Char) (b e : Nat) (hbe : b ≤ e) (_he : e ≤ s.length)
    (l c c' : Nat) (hf : format s ⟨b, e⟩ = (l, c, none, c')) :
    (∀ ch ∈ (s.drop b).take (e - b), ch ≠ '\n') ∧
    c' = c + (e - b) ∧
    ((dropLines (l - 1) s).drop (c - 1)).take (c' - c) = (s.drop b).take (e - b) := by
  have h1 := (format_lines s b e hbe l c none c' hf).2.1 rfl
  obtain ⟨rfl, rfl, -, rfl, hn⟩ := format_spec hf
  have hle := lineStart_le_all s b
  have hd := designates s b
  rw [← hn.1 rfl]
  generalize lineStart s (lineFromOffset s b) = so at hle hd ⊢
  have hw : e - so + 1 = b - so + 1 + (e - b) := by
    rw [← Nat.sub_add_sub_cancel hbe hle, Nat.add_comm (e - b), Nat.add_right_comm]
  refine ⟨h1, hw, ?_⟩
  rw [hw, Nat.add_sub_cancel_left, Nat.add_sub_cancel, Nat.add_sub_cancel, hd]
#print axioms format_single_line

/-! ## 6. `Location.Merge` is the hull -/

theorem merge_contains (x : Span) (l : List Span) :
    ((merge x l).b ≤ x.b ∧ x.e ≤ (merge x l).e) ∧
    ∀ y ∈ l, (merge x l).b ≤ y.b ∧ y.e ≤ (merge x l).e := by
  induction l generalizing x with
  | nil => exact ⟨⟨Nat.le_refl _, Nat.le_refl _⟩, nofun⟩
  | cons z l ih =>
    obtain ⟨⟨hb, he⟩, hl⟩ := ih (mergeStep x z)
    exact ⟨⟨Nat.le_trans hb (Nat.min_le_left ..), Nat.le_trans (Nat.le_max_left ..) he⟩,
      List.forall_mem_cons.2
        ⟨⟨Nat.le_trans hb (Nat.min_le_right ..), Nat.le_trans (Nat.le_max_right ..) he⟩, hl⟩⟩
#print axioms merge_contains

/-- Any span containing all arguments contains the result. -/
theorem merge_least (x : Span) (l : List Span) (t : Span)
    (hx : t.b ≤ x.b ∧ x.e ≤ t.e) (hl : ∀ y ∈ l, t.b ≤ y.b ∧ y.e ≤ t.e) :
    t.b ≤ (merge x l).b ∧ (merge x l).e ≤ t.e := by
  induction l generalizing x with
  | nil => exact hx
  | cons z l ih =>
    obtain ⟨hz, hl⟩ := List.forall_mem_cons.1 hl
    exact ih (mergeStep x z) ⟨Nat.le_min.2 ⟨hx.1, hz.1⟩, Nat.max_le.2 ⟨hx.2, hz.2⟩⟩ hl
#print axioms merge_least

/-- The result does not depend on the order of the arguments (including which one is first). -/
theorem merge_perm (x₁ : Span) (l₁ : List Span) (x₂ : Span) (l₂ : List Span)
    (hp : (x₁ :: l₁).Perm (x₂ :: l₂)) : merge x₁ l₁ = merge x₂ l₂ := by
  -- each hull contains the other's arguments, hence the other hull
  have key : ∀ (x : Span) (l : List Span) (x' : Span) (l' : List Span),
      (∀ y, y ∈ x :: l → y ∈ x' :: l') →
      (merge x' l').b ≤ (merge x l).b ∧ (merge x l).e ≤ (merge x' l').e := by
    intro x l x' l' hsub
    have hc : ∀ y ∈ x' :: l', (merge x' l').b ≤ y.b ∧ y.e ≤ (merge x' l').e :=
      List.forall_mem_cons.2 (merge_contains x' l')
    obtain ⟨hx, hl⟩ := List.forall_mem_cons.1 fun y hy => hc y (hsub y hy)
    exact merge_least x l _ hx hl
  have h12 := key x₁ l₁ x₂ l₂ (fun y hy => hp.mem_iff.1 hy)
  have h21 := key x₂ l₂ x₁ l₁ (fun y hy => hp.mem_iff.2 hy)
  exact Span.ext' (by omega) (by omega)
#print axioms merge_perm

/-- Well-formedness `b ≤ e` is preserved (only the first argument needs it). -/
theorem merge_wf (x : Span) (l : List Span) (hx : x.b ≤ x.e) : (merge x l).b ≤ (merge x l).e := by
  have := (merge_contains x l).1; omega
#print axioms merge_wf

/-! ## 7. Non-vacuity -/

/-- `"ab\n\n\tcd = 1;\n"`: a blank line, a tab, leading text on line 3. -/
def demo : List Char :=
  ['a', 'b', '\n', '\n', '\t', 'c', 'd', ' ', '=', ' ', '1', ';', '\n']

example : demo = "ab\n\n\tcd = 1;\n".toList := by decide +kernel
example : splitLines demo = [['a', 'b'], [], ['\t', 'c', 'd', ' ', '=', ' ', '1', ';'], []] := by
  decide +kernel
example : lineOffsets demo = [0, 3, 4, 13] := by decide +kernel
example : (List.range 14).map (lineFromOffset demo) = [0, 0, 0, 1, 2, 2, 2, 2, 2, 2, 2, 2, 2, 3] := by
  decide +kernel
-- identifier `cd` = [5,7): line 3, columns 2–4 (the tab is one column)
example : format demo ⟨5, 7⟩ = (3, 2, none, 4) := by decide +kernel
example : formatStr demo ⟨5, 7⟩ = "3:2-4" := by decide +kernel
-- declaration `cd = 1;` = [5,12)
example : formatStr demo ⟨5, 12⟩ = "3:2-9" := by decide +kernel
-- whole text [0,13): ends at column 1 of line 4
example : format demo ⟨0, 13⟩ = (1, 1, some 4, 1) := by decide +kernel
example : formatStr demo ⟨0, 13⟩ = "1:1-4:1" := by decide +kernel
-- span across the blank line
example : formatStr demo ⟨1, 6⟩ = "1:2-3:3" := by decide +kernel
-- hypotheses of the format theorems are satisfiable, conclusions are concrete
example : (5 ≤ 7 ∧ 7 ≤ demo.length) ∧ (dropLines 2 demo).drop 1 = demo.drop 5 ∧
    (demo.drop 5).take 2 = ['c', 'd'] := by decide +kernel
example : dropLines 1 demo = ['\n', '\t', 'c', 'd', ' ', '=', ' ', '1', ';', '\n'] := by decide +kernel
-- merge: hull of the parts of `cd = 1;` given out of order, and permutation invariance
example : merge ⟨8, 9⟩ [⟨5, 7⟩, ⟨10, 11⟩, ⟨11, 12⟩] = ⟨5, 12⟩ := by decide +kernel
example : merge ⟨11, 12⟩ [⟨10, 11⟩, ⟨8, 9⟩, ⟨5, 7⟩] = ⟨5, 12⟩ := by decide +kernel
example : ([⟨8, 9⟩, ⟨5, 7⟩, ⟨10, 11⟩, ⟨11, 12⟩] : List Span).Perm
    [⟨11, 12⟩, ⟨10, 11⟩, ⟨8, 9⟩, ⟨5, 7⟩] := by decide +kernel

-- hypotheses of `merge_least` / `merge_wf` are satisfiable
example : let t : Span := ⟨2, 20⟩
    (t.b ≤ 8 ∧ 9 ≤ t.e) ∧ ∀ y ∈ ([⟨5, 7⟩, ⟨10, 11⟩, ⟨11, 12⟩] : List Span), t.b ≤ y.b ∧ y.e ≤ t.e := by
  decide +kernel
-- the theorems instantiated on the concrete text
example := lineFromOffset_eq_count demo 5 (by decide +kernel)
example := lineStart_spec demo 5
example := format_start_designates demo 5 7 (by decide +kernel) (by decide +kernel) 3 2 none 4 (by decide +kernel)
example := format_end_designates demo 1 6 (by decide +kernel) (by decide +kernel) 1 2 (some 3) 3 (by decide +kernel)
example := format_single_line demo 5 7 (by decide +kernel) (by decide +kernel) 3 2 4 (by decide +kernel)
example := merge_perm ⟨8, 9⟩ [⟨5, 7⟩, ⟨10, 11⟩, ⟨11, 12⟩] ⟨11, 12⟩ [⟨10, 11⟩, ⟨8, 9⟩, ⟨5, 7⟩]
  (by decide +kernel)

end Nsl.SrcMap
