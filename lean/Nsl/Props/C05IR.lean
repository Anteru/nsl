import Nsl.Proofs.IRTypeRun
import Nsl.Props.C05
/-!
# C05 at the IR level – "well-typed IR never fails internally in the VM"

`IRType.irTypeCheck` (`Nsl/Model/IRType.lean`) is an executable type checker for whole IR programs, covering ALL 20
instruction forms of the IR (scalars, control flow, calls, globals, vectors, matrices, swizzles, constructors, casts,
arrays and structs through aliases).  Proved here, for every program the checker accepts, every function of it, every
fuel, and all arguments / globals of the declared types:

* `C05_typed_ir_no_internal`    – strict checker (`irTypeCheckStrict`, which additionally refuses float → int
  conversions): the VM never fails with an `internal` error – every failure is `divZero`, `indexOOB`,
  `unsupported _` or `timeout`;
* `C05_typed_ir_only_floor`     – plain checker (`irTypeCheck`): the only possible internal failure is
  `floor-of-nan-or-inf` (`math.floor` of a NaN / an infinity in a float → int cast – a genuine run-time failure of the
  VM that no static typing can exclude);
* `C05_typed_ir_result`         – a finished run returns a value of the declared return type and leaves every global
  with a value of its declared type (so the theorems compose over successive invocations);
* `C05_typed_ir_isInternal`     – the strict statement with the Boolean `Res.isInternal` of `Nsl/Props/C05.lean`;
* `C05_scalar_layer`, `C05_flat_layer` – the same for the syntactically restricted layers (corollaries).
The hypothesis on the inputs: `valsOK` (same number of arguments as parameters, each a tree of the parameter's type –
in particular no alias) and `GlobalsOK` (every declared global is present with a value of its type).
-/
namespace Nsl
open VM IRType

abbrev GlobalsTyped (P : Program) (g : Globals) : Prop :=
  ∀ n T, Map.get P.globals n = some T → ∃ w, Map.get g n = some w ∧ valOK T w = true

theorem C05_typed_ir_no_internal (P : Program) (hP : irTypeCheckStrict P = true)
    (fuel : Nat) (name : String) (args : List Val) (g : Globals)
    (f : Func) (hf : P.find name = some f)
    (hargs : valsOK (f.params.map (·.2)) args = true) (hg : GlobalsTyped P g) :
    ∀ e, VM.invoke P fuel name args g = .fail e → ¬ (∃ s, e = .internal s) := by
  intro e he ⟨s, hs⟩
  have h := invoke_sound (strict := true) hP fuel name args g f hf hargs hg
  rw [he] at h
  exact nomatch (h s hs).1

#print axioms C05_typed_ir_no_internal

theorem C05_typed_ir_only_floor (P : Program) (hP : irTypeCheck P = true)
    (fuel : Nat) (name : String) (args : List Val) (g : Globals)
    (f : Func) (hf : P.find name = some f)
    (hargs : valsOK (f.params.map (·.2)) args = true) (hg : GlobalsTyped P g) :
    ∀ e s, VM.invoke P fuel name args g = .fail e → e = .internal s → s = "floor-of-nan-or-inf" := by
  intro e s he hs
  have h := invoke_sound (strict := false) hP fuel name args g f hf hargs hg
  rw [he] at h
  exact (h s hs).2

#print axioms C05_typed_ir_only_floor

theorem C05_typed_ir_result (P : Program) (hP : irTypeCheck P = true)
    (fuel : Nat) (name : String) (args : List Val) (g : Globals)
    (f : Func) (hf : P.find name = some f)
    (hargs : valsOK (f.params.map (·.2)) args = true) (hg : GlobalsTyped P g) :
    ∀ v g' as, VM.invoke P fuel name args g = .done v g' as → valOK f.ret v = true ∧ GlobalsTyped P g' := by
  intro v g' as hd
  have h := invoke_sound (strict := false) hP fuel name args g f hf hargs hg
  rw [hd] at h
  exact h

#print axioms C05_typed_ir_result

theorem C05_typed_ir_isInternal (P : Program) (hP : irTypeCheckStrict P = true)
    (fuel : Nat) (name : String) (args : List Val) (g : Globals)
    (f : Func) (hf : P.find name = some f)
    (hargs : valsOK (f.params.map (·.2)) args = true) (hg : GlobalsTyped P g) :
    Res.isInternal (VM.invoke P fuel name args g) = false := by
  cases hr : VM.invoke P fuel name args g with
  | done v g' as => rfl
  | fail e =>
    cases e with
    | internal s => exact absurd ⟨s, rfl⟩ (C05_typed_ir_no_internal P hP fuel name args g f hf hargs hg _ hr)
    | _ => rfl

#print axioms C05_typed_ir_isInternal

/-- Layer 1 (scalars, control flow, calls, globals only).  The layers are stated for the plain checker. -/
theorem C05_scalar_layer (P : Program) (hP : irTypeCheckScalar P = true)
    (fuel : Nat) (name : String) (args : List Val) (g : Globals)
    (f : Func) (hf : P.find name = some f)
    (hargs : valsOK (f.params.map (·.2)) args = true) (hg : GlobalsTyped P g) :
    ∀ e s, VM.invoke P fuel name args g = .fail e → e = .internal s → s = "floor-of-nan-or-inf" := by
  simp only [irTypeCheckScalar, Bool.and_eq_true] at hP
  exact C05_typed_ir_only_floor P hP.2 fuel name args g f hf hargs hg

#print axioms C05_scalar_layer

/-- Layer 2 (layer 1 + vectors, matrices, swizzles, constructors; no arrays / structs). -/
theorem C05_flat_layer (P : Program) (hP : irTypeCheckFlat P = true)
    (fuel : Nat) (name : String) (args : List Val) (g : Globals)
    (f : Func) (hf : P.find name = some f)
    (hargs : valsOK (f.params.map (·.2)) args = true) (hg : GlobalsTyped P g) :
    ∀ e s, VM.invoke P fuel name args g = .fail e → e = .internal s → s = "floor-of-nan-or-inf" := by
  simp only [irTypeCheckFlat, Bool.and_eq_true] at hP
  exact C05_typed_ir_only_floor P hP.2 fuel name args g f hf hargs hg

#print axioms C05_flat_layer

/-- `C05_Statement` of `Nsl/Props/C05.lean` holds when "accepted" means: the lowered program passes
the strict IR type checker (a decidable condition that the harness evaluates on the IR of every compiled program –
translation validation), and "inputs typed" means `valsOK` / `GlobalsTyped` for the lowered program. -/
theorem C05_Statement_checked :
    C05_Statement (fun M => irTypeCheckStrict (Lower.lowerModule M) = true)
      (fun M name args g => ∃ f, (Lower.lowerModule M).find name = some f ∧
        valsOK (f.params.map (·.2)) args = true ∧ GlobalsTyped (Lower.lowerModule M) g) := by
  intro M hM fuel name args g ⟨f, hf, hargs, hg⟩
  exact C05_typed_ir_isInternal _ hM fuel name args g f hf hargs hg

#print axioms C05_Statement_checked

/-- the same for the optimised program: the check is on the IR that runs -/
theorem C05_Statement_checked_opt :
    ∀ (M : Core.Module), irTypeCheckStrict (Opt.optProgram (Lower.lowerModule M)) = true →
      ∀ (fuel : Nat) (name : String) (args : List Val) (g : Globals) (f : Func),
        (Opt.optProgram (Lower.lowerModule M)).find name = some f → valsOK (f.params.map (·.2)) args = true →
        GlobalsTyped (Opt.optProgram (Lower.lowerModule M)) g →
        Res.isInternal (VM.invoke (Opt.optProgram (Lower.lowerModule M)) fuel name args g) = false := by
  intro M hM fuel name args g f hf hargs hg
  exact C05_typed_ir_isInternal _ hM fuel name args g f hf hargs hg

#print axioms C05_Statement_checked_opt

/-! ## Non-vacuity: a program with a loop, a call, a vector operation, a global, an array and a struct -/

namespace C05IRExample

def tVec : ITy := .vec .float 3
def tArr : ITy := .arr (.sc .int) [2]
def tSt : ITy := .struct "S" [("w", .sc .float)]

/-- `float sq(float x) { return x * x; }` -/
def sq : Func :=
  { name := "sq", params := [("x", .sc .float)], ret := .sc .float,
    code := [.label 0, .load 1 (.sc .float) .arg (.index 0), .bin 2 (.s .mul) (.sc .float) (.ref 1) (.ref 1),
             .ret (some (.ref 2))] }

/-- ```
float main(int n, float3 v) {
  float acc; int i = 0; int[2] a; S s;
  while (i < n) { acc = acc + sq((v * 2.0)[0]); a[i] = i; s.w = acc; gl = gl + a[0]; i = i + 1; }
  return acc + s.w;
}``` -/
def main : Func :=
  { name := "main", params := [("n", .sc .int), ("v", tVec)], ret := .sc .float,
    code := [
      .label 0,
      .newVar 1 (.sc .float) "acc", .newVar 2 (.sc .int) "i", .store .local (.name "i") (.cInt 0),
      .newVar 3 tArr "a", .newVar 4 tSt "s",
      .br 1,
      .label 1,
      .load 5 (.sc .int) .local (.name "i"), .load 6 (.sc .int) .arg (.index 0),
      .bin 7 (.s .lt) (.sc .int) (.ref 5) (.ref 6),
      .brc (.ref 7) 2 3,
      .label 2,
      .load 8 tVec .arg (.index 1),
      .bin 9 .vMulS tVec (.ref 8) (.cFlt 2.0),
      .vecGet 10 (.sc .float) (.ref 9) (.cInt 0),
      .call 11 (.sc .float) "sq" [.ref 10],
      .load 12 (.sc .float) .local (.name "acc"),
      .bin 13 (.s .add) (.sc .float) (.ref 12) (.ref 11),
      .store .local (.name "acc") (.ref 13),
      .load 14 (.sc .int) .local (.name "i"),
      .load 15 tArr .local (.name "a"),
      .storeArr (.ref 15) (.ref 14) (.ref 14),
      .load 16 tSt .local (.name "s"),
      .storeMem (.ref 16) "w" (.ref 13),
      .loadArr 17 (.sc .int) (.ref 15) (.cInt 0),
      .load 18 (.sc .int) .global (.name "gl"),
      .bin 19 (.s .add) (.sc .int) (.ref 18) (.ref 17),
      .store .global (.name "gl") (.ref 19),
      .bin 20 (.s .add) (.sc .int) (.ref 14) (.cInt 1),
      .store .local (.name "i") (.ref 20),
      .br 1,
      .label 3,
      .load 21 (.sc .float) .local (.name "acc"),
      .load 22 tSt .local (.name "s"),
      .loadMem 23 (.sc .float) (.ref 22) "w",
      .bin 24 (.s .add) (.sc .float) (.ref 21) (.ref 23),
      .ret (some (.ref 24))] }

def prog : Program := { funcs := [sq, main], globals := [("gl", .sc .int)] }

theorem prog_checks : irTypeCheckStrict prog = true := by decide +kernel

/-- the theorem instantiated: whatever `n`, the vector components, the initial global and the fuel are, running `main`
never ends in an internal failure (here: the only possible failures are `indexOOB` — `a[i]` for `i ≥ 2` — and
`timeout`) -/
theorem main_never_internal (fuel : Nat) (n gl : Int) (x y z : Float) :
    ∀ e, VM.invoke prog fuel "main" [.int n, .list [.flt x, .flt y, .flt z]] [("gl", .int gl)] = .fail e →
      ¬ (∃ s, e = .internal s) :=
  C05_typed_ir_no_internal prog prog_checks fuel "main" _ _ main rfl rfl
    (GlobalsOK_iff_mapRel.2 (MapRel.set (MapRel.nil (m' := [])) rfl))

#print axioms main_never_internal

end C05IRExample

end Nsl
