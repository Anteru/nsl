import Nsl.Model.VM
import Nsl.Model.Lower
import Nsl.Proofs.StepLemmas
import Nsl.Proofs.ExceptList
import Nsl.Proofs.ListVals
import Nsl.Proofs.ScalarOps
/-!
# C04 – vectors and matrices are values: component operations, swizzles, copies

Facts about single opcodes of the VM model and the index lists the lowering builds, for vectors of ANY size and masks of
ANY length (the implementation only spells 2–4).  A swizzle read is `SHUFFLE` of the vector with itself
(`C04_swizzle_read`, `_single`: the selected components in mask order; one component comes back as the scalar).  A
swizzle write is `SHUFFLE` of the old vector and the assigned components under `storeShuffleIdx` (`C04_swizzle_write`:
the result is `swizzleWriteSpec`, which changes the masked components only, `swizzleWriteSpec_other`).  `setKey` inside a
list is `List.set` (`C04_element_write`) and a `VECTOR_SET`/`MATRIX_SET` step changes only its own result register
(`C04_set_is_copy`): a copy is independent of its source.  Element-wise operations are `scalarBin` per component, 0/1
on comparisons (`C04_componentwise`, `C04_vector_compare_01`); a vector constructor concatenates the components of its
arguments (`C04_construct_flattens`).
That lowered vector and matrix expressions compute their source meaning is `C04_compile_correct_vector`
(`Props/C04Sim.lean`, modules of `VectorCore`); outside that core the two sides are tied by `p_c04.py`.
-/
namespace Nsl
open VM Lower

theorem swizzle_read (s : Sc) (n : Nat) (v w : List Val) (mask : List Nat) (hm : ∀ i ∈ mask, i < v.length) :
    shuffleExec (.vec s n) (.list v) (.list w) mask = .ok (.list (mask.map (nth v))) := by
  rw [shuffleExec_vec, flatOf, pick_spec _ mask fun i hi => by have := hm i hi; simp; omega]
  exact congrArg (fun r => Except.ok (Val.list r)) (List.map_congr_left fun i hi => nth_append_left (hm i hi))

theorem C04_swizzle_read (s : Sc) (v : List Val) (mask : List Nat) (hm : ∀ i ∈ mask, i < v.length)
    (hlen : mask.length ≠ 1) :
    shuffleExec (.vec s mask.length) (.list v) (.list v) mask = .ok (.list (mask.map (nth v))) :=
  swizzle_read s _ v v mask hm

#print axioms C04_swizzle_read

theorem C04_swizzle_read_single (s : Sc) (v : List Val) (i : Nat) (hi : i < v.length) :
    shuffleExec (.sc s) (.list v) (.list v) [i] = .ok (nth v i) := by
  rw [shuffleExec_eq, flatOf, pick_spec _ [i] fun j hj => by cases List.mem_singleton.1 hj; simp; omega]
  exact congrArg Except.ok (nth_append_left hi)

#print axioms C04_swizzle_read_single

/-- Specification of a swizzle store: component `mask[i]` takes the `i`-th assigned component. -/
def swizzleWriteSpec (v : List Val) : List Nat → List Val → List Val
  | [], _ => v
  | _, [] => v
  | w :: ws, e :: es => swizzleWriteSpec (v.set w e) ws es

theorem swizzleWriteSpec_length (v : List Val) (mask : List Nat) (es : List Val) :
    (swizzleWriteSpec v mask es).length = v.length := by
  induction mask generalizing v es with
  | nil => simp [swizzleWriteSpec]
  | cons a r ih => cases es <;> simp [swizzleWriteSpec, ih]

/-- Read through an `f` that finds the assigned components after position `n`, the indices built from `idx` denote the
specification applied to what `idx` denotes. -/
theorem Lower.storeShuffleIdx.go_map (n : Nat) (es : List Val) (f : Nat → Val)
    (hf : ∀ i (h : i < es.length), f (n + i) = es[i]) :
    ∀ (mask idx : List Nat) (i : Nat), i + mask.length ≤ es.length →
      (storeShuffleIdx.go n idx i mask).map f = swizzleWriteSpec (idx.map f) mask (es.drop i)
  | [], idx, i, _ => by cases h : es.drop i <;> rfl
  | w :: ws, idx, i, h => by
    have hi : i < es.length := by simp at h; omega
    rw [storeShuffleIdx.go, go_map n es f hf ws _ (i + 1) (by simp at h; omega), List.drop_eq_getElem_cons hi,
      swizzleWriteSpec, List.map_set, hf i hi]

theorem Lower.storeShuffleIdx.go_lt (n m : Nat) : ∀ (mask idx : List Nat) (i : Nat), i + mask.length ≤ m →
    (∀ x ∈ idx, x < n + m) → ∀ x ∈ storeShuffleIdx.go n idx i mask, x < n + m
  | [], idx, i, _, h => h
  | w :: ws, idx, i, hl, h => by
    rw [storeShuffleIdx.go]
    refine go_lt n m ws _ (i + 1) (by simp at hl; omega) fun x hx => ?_
    rcases List.mem_or_eq_of_mem_set hx with hx | rfl
    · exact h x hx
    · simp at hl; omega

theorem pick_store (v es : List Val) (mask : List Nat) (hlen : mask.length ≤ es.length) :
    shuffleExec.pick (v ++ es) (storeShuffleIdx v.length mask) = .ok (swizzleWriteSpec v mask es) := by
  have hstart : (List.range v.length).map (nth (v ++ es)) = v :=
    List.ext_getElem (by simp) fun j h1 _ => by
      have hj : j < v.length := by simpa using h1
      rw [List.getElem_map, List.getElem_range, nth_append_left hj, nth_lt hj]
  have hlt : ∀ x ∈ storeShuffleIdx.go v.length (List.range v.length) 0 mask, x < (v ++ es).length := by
    rw [List.length_append]
    exact storeShuffleIdx.go_lt _ _ mask _ 0 (by omega) fun x hx => by have := List.mem_range.1 hx; omega
  have hread : ∀ i (h : i < es.length), nth (v ++ es) (v.length + i) = es[i] := fun i h => by
    rw [nth_lt (by rw [List.length_append]; omega), List.getElem_append_right (by omega)]
    simp
  rw [storeShuffleIdx, pick_spec _ _ hlt, storeShuffleIdx.go_map _ es _ hread mask _ 0 (by omega), hstart]
  rfl

/-- An index outside the vector is skipped by both sides, a repeated one overwritten by both: only the length matters. -/
theorem swizzle_write (s : Sc) (n : Nat) (v es : List Val) (mask : List Nat) (hlen : mask.length ≤ es.length) :
    shuffleExec (.vec s n) (.list v) (.list es) (storeShuffleIdx v.length mask) =
      .ok (.list (swizzleWriteSpec v mask es)) := by
  rw [shuffleExec_vec, flatOf, flatOf, pick_store v es mask hlen]
  rfl

theorem C04_swizzle_write (s : Sc) (v es : List Val) (mask : List Nat) (hw : ∀ w ∈ mask, w < v.length)
    (hnd : mask.Nodup) (hlen : mask.length = es.length) :
    shuffleExec (.vec s v.length) (.list v) (.list es) (storeShuffleIdx v.length mask) =
      .ok (.list (swizzleWriteSpec v mask es)) :=
  swizzle_write s _ v es mask (Nat.le_of_eq hlen)

#print axioms C04_swizzle_write

theorem swizzleWriteSpec_other (v : List Val) (mask : List Nat) (es : List Val) (j : Nat) (hj : j ∉ mask) :
    (swizzleWriteSpec v mask es)[j]? = v[j]? := by
  induction mask generalizing v es with
  | nil => simp [swizzleWriteSpec]
  | cons a r ih =>
    cases es with
    | nil => simp [swizzleWriteSpec]
    | cons e es' =>
      simp only [swizzleWriteSpec]
      rw [ih _ _ (fun h => hj (List.mem_cons_of_mem _ h))]
      have hne : a ≠ j := fun h => hj (by rw [← h]; exact List.mem_cons_self ..)
      exact List.getElem?_set_ne hne

#print axioms swizzleWriteSpec_other

theorem C04_element_write (v : List Val) (i : Nat) (x : Val) (hi : i < v.length) :
    setKey (.list v) (.idx i) x = .ok (.list (v.set i x)) ∧ (v.set i x).length = v.length ∧
      (v.set i x)[i]? = some x ∧ ∀ j, j ≠ i → (v.set i x)[j]? = v[j]? := by
  refine ⟨setKey_idx_iff.2 ⟨hi, rfl⟩, by simp, by simp [hi], fun j hj => List.getElem?_set_ne (fun h => hj h.symm)⟩

#print axioms C04_element_write

theorem liftE_next {α : Type} {x : Except Err α} {k : α → StepOut} {pc' : Nat} {fr' : Frame} {g' : Globals}
    (h : liftE x k = .next pc' fr' g') : ∃ a, k a = .next pc' fr' g' := by
  cases x with
  | ok a => exact ⟨a, h⟩
  | error e => cases h

theorem C04_set_is_copy (cf : String → List Val → Globals → Res) (code : List Instr) (pc : Nat) (fr : Frame)
    (g : Globals) (dst : Nat) (ty : ITy) (v idx src : Opd) (pc' : Nat) (fr' : Frame) (g' : Globals)
    (hc : code[pc]? = some (.vecSet dst ty v idx src) ∨ code[pc]? = some (.matSet dst ty v idx src))
    (h : stepI cf code pc fr g = .next pc' fr' g') :
    g' = g ∧ fr'.locals = fr.locals ∧ fr'.args = fr.args ∧ ∀ r, r ≠ dst → Map.get fr'.regs r = Map.get fr.regs r := by
  have hs : stepI cf code pc fr g = liftE (evalVal fr g v) fun a => liftE (evalVal fr g idx) fun i =>
      liftE (evalVal fr g src) fun x => liftE (indexOf a i) fun k =>
      liftE (setKey a (.idx k) x) fun a' => .next (pc + 1) (setReg fr dst a') g := by
    rcases hc with hc | hc <;> simp only [stepI, hc]
  rw [hs] at h
  obtain ⟨a, h⟩ := liftE_next h
  obtain ⟨i, h⟩ := liftE_next h
  obtain ⟨x, h⟩ := liftE_next h
  obtain ⟨k, h⟩ := liftE_next h
  obtain ⟨a', h⟩ := liftE_next h
  cases h
  exact ⟨rfl, rfl, rfl, fun r hr => Map.get_set_ne _ _ _ _ (fun h => hr h.symm)⟩

#print axioms C04_set_is_copy

theorem C04_componentwise (o : SOp) (it : Bool) : ∀ (xs ys : List Val) (zs : List Val),
    zipBin o it xs ys = .ok zs → zs.length = min xs.length ys.length ∧
      ∀ i (h1 : i < xs.length) (h2 : i < ys.length) (h3 : i < zs.length), scalarBin o it xs[i] ys[i] = .ok zs[i] :=
  fun _ _ _ => zipE_get (f := zipBin o it) (g := scalarBin o it) (fun _ => rfl) (fun xs => by cases xs <;> rfl)
    (fun _ _ _ _ => rfl)

#print axioms C04_componentwise

theorem C04_vector_compare_01 (o : SOp) (ho : o.isCmp = true) (it : Bool) (x y z : Val)
    (h : scalarBin o it x y = .ok z) : z = .int 0 ∨ z = .int 1 := by
  have key : ∀ b : Bool, Val.ofBool b = .int 0 ∨ Val.ofBool b = .int 1 := fun b => by
    cases b
    · exact .inl rfl
    · exact .inr rfl
  rw [scalarBin_cmp ho] at h
  split at h
  · cases h; exact key _
  · split at h
    · cases h; exact key _
    · cases h

#print axioms C04_vector_compare_01

theorem C04_construct_flattens (s : Sc) (n : Nat) (vals : List Val) :
    constructExec (.vec s n) vals = .ok (.list (constructExec.flat vals)) ∧
    constructExec.flat ([] : List Val) = [] ∧
    (∀ vs rest, constructExec.flat (.list vs :: rest) = vs ++ constructExec.flat rest) ∧
    (∀ i rest, constructExec.flat (.int i :: rest) = .int i :: constructExec.flat rest) ∧
    (∀ f rest, constructExec.flat (.flt f :: rest) = .flt f :: constructExec.flat rest) := by
  refine ⟨rfl, rfl, fun _ _ => rfl, fun _ _ => rfl, fun _ _ => rfl⟩

#print axioms C04_construct_flattens

example : shuffleExec (.vec .float 4) (.list [.int 1, .int 2, .int 3]) (.list [.int 1, .int 2, .int 3]) [2, 2, 0, 1]
    = .ok (.list [.int 3, .int 3, .int 1, .int 2]) := by rfl
example : storeShuffleIdx 4 [2, 0] = [5, 1, 4, 3] := by rfl
example : swizzleWriteSpec [.int 1, .int 2, .int 3, .int 4] [2, 0] [.int 9, .int 8] = [.int 8, .int 2, .int 9, .int 4] := by rfl

end Nsl
