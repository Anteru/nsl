import Nsl.Props.C01
import Nsl.Props.C01Storage
import Nsl.Props.LowerOK
/-!
# C15 – global state persists exactly across invocation histories; VMs are isolated

A host drives any number of VM instances created from one linked program with `SetGlobal`, `GetGlobal` and `Invoke`.
`HostRun Inv` is the history semantics parametric in the meaning `Inv` of one invocation; instantiating `Inv` with the
reference semantics gives the *reference state machine of the source program*, instantiating it with the VM model
gives the behaviour of `VirtualMachine`.

* `C15_history_refinement`: every history of the reference state machine (any length, any interleaving over any
  number of VMs) is a history of the VM with the same outputs and the same final global stores — by induction over the
  history from `C01_compile_correct`.
* `C15_isolated`: an operation on VM `i` leaves the globals of every other VM untouched; `C15_fresh_locals`: an
  invocation starts from a frame that contains only its arguments.
* `C15_vm_deterministic`: the VM's answer to an invocation is unique, so the refinement determines the VM's outputs.
-/
namespace Nsl
open Core VM Lower

inductive HostOp
  | set (vm : Nat) (name : String) (v : Val)
  | get (vm : Nat) (name : String)
  | invoke (vm : Nat) (fn : String) (args : List Val)

inductive HostOut
  | unit
  | got (v : Option Val)
  | ret (v : Val) (args : List Val)

/-- One global store per VM instance. -/
abbrev HostState := Nat → Globals

def HostState.upd (s : HostState) (i : Nat) (g : Globals) : HostState := fun j => if j = i then g else s j

/-- Meaning of one invocation: function, arguments, globals before ↦ value, globals after, final arguments. -/
abbrev InvRel := String → List Val → Globals → Val → Globals → List Val → Prop

def InvRef (M : Core.Module) : InvRel := fun fn args g v g' as =>
  ∃ fuel, CoreSem.invoke M fuel fn args g = .done v g' as

def InvVM (P : Program) : InvRel := fun fn args g v g' as =>
  ∃ fuel, VM.invoke P fuel fn args g = .done v g' as

inductive HostStep (Inv : InvRel) : HostState → HostOp → HostOut → HostState → Prop
  | set (s : HostState) (i : Nat) (n : String) (v : Val) :
      HostStep Inv s (.set i n v) .unit (s.upd i (Map.set (s i) n v))
  | get (s : HostState) (i : Nat) (n : String) :
      HostStep Inv s (.get i n) (.got (Map.get (s i) n)) s
  | invoke (s : HostState) (i : Nat) (fn : String) (args : List Val) (v : Val) (g' : Globals) (as : List Val) :
      Inv fn args (s i) v g' as → HostStep Inv s (.invoke i fn args) (.ret v as) (s.upd i g')

inductive HostRun (Inv : InvRel) : HostState → List HostOp → List HostOut → HostState → Prop
  | nil (s : HostState) : HostRun Inv s [] [] s
  | cons {s s1 s2 : HostState} {op : HostOp} {out : HostOut} {ops : List HostOp} {outs : List HostOut} :
      HostStep Inv s op out s1 → HostRun Inv s1 ops outs s2 → HostRun Inv s (op :: ops) (out :: outs) s2

/-- The host hands over plain values. -/
def HostOp.plain : HostOp → Prop
  | .set _ _ v => VM.Val.isPtr v = false
  | .get _ _ => True
  | .invoke _ _ args => HostVals args

def HostState.plain (s : HostState) : Prop := ∀ i, HostGlobals (s i)

theorem HostState.plain_upd {s : HostState} (h : s.plain) (i : Nat) {g : Globals} (hg : HostGlobals g) :
    (s.upd i g).plain := by
  intro j
  unfold HostState.upd
  by_cases hj : j = i
  · simp [hj]; exact hg
  · simp [hj]; exact h j

theorem HostRun.imp {I J : InvRel}
    (h : ∀ fn args g v g' as, HostVals args → HostGlobals g → I fn args g v g' as →
      J fn args g v g' as ∧ HostGlobals g')
    {s : HostState} {ops : List HostOp} {outs : List HostOut} {s' : HostState} (hs : s.plain)
    (hops : ∀ op ∈ ops, op.plain) (hr : HostRun I s ops outs s') : HostRun J s ops outs s' ∧ s'.plain := by
  induction hr with
  | nil s => exact ⟨.nil s, hs⟩
  | @cons s s1 s2 op out ops outs hstep _ ih =>
    have hop := hops op (List.mem_cons_self ..)
    have hrest : ∀ o ∈ ops, o.plain := fun o ho => hops o (List.mem_cons_of_mem _ ho)
    cases hstep with
    | set i n v =>
      obtain ⟨r, p⟩ := ih (HostState.plain_upd hs i (Sim.MapOK.set (hs i) n hop)) hrest
      exact ⟨.cons (.set s i n v) r, p⟩
    | get i n =>
      obtain ⟨r, p⟩ := ih hs hrest
      exact ⟨.cons (.get s i n) r, p⟩
    | invoke i fn args v g' as hinv =>
      obtain ⟨hJ, hpl⟩ := h fn args (s i) v g' as hop (hs i) hinv
      obtain ⟨r, p⟩ := ih (HostState.plain_upd hs i hpl) hrest
      exact ⟨.cons (.invoke s i fn args v g' as hJ) r, p⟩

theorem C15_history_refinement (M : Core.Module) (hM : ScalarCore M) (s : HostState) (ops : List HostOp)
    (outs : List HostOut) (s' : HostState) (hs : s.plain) (hops : ∀ op ∈ ops, op.plain)
    (h : HostRun (InvRef M) s ops outs s') : HostRun (InvVM (lowerModule M)) s ops outs s' ∧ s'.plain :=
  HostRun.imp (fun fn args g v g' as hargs hg ⟨fuel, href⟩ =>
    ⟨C01_compile_correct M hM fuel fn args g v g' as hargs hg href,
      (C01_globals_plain M hM fuel fn args g v g' as hargs hg href).1⟩) hs hops h

#print axioms C15_history_refinement

theorem C15_history_refinement_storage (M : Core.Module) (hM : StorageCore M) (s : HostState) (ops : List HostOp)
    (outs : List HostOut) (s' : HostState) (hs : s.plain) (hops : ∀ op ∈ ops, op.plain)
    (h : HostRun (InvRef M) s ops outs s') : HostRun (InvVM (lowerModule M)) s ops outs s' ∧ s'.plain :=
  HostRun.imp (fun fn args g v g' as hargs hg ⟨fuel, href⟩ =>
    ⟨C01_compile_correct_storage M hM fuel fn args g v g' as hargs hg href,
      (C01_globals_plain_storage M hM fuel fn args g v g' as hargs hg href).1⟩) hs hops h

#print axioms C15_history_refinement_storage

/-- A store to a global that the optimiser forwards to a later load is still written, so what later invocations and
`GetGlobal` see is unchanged. -/
theorem C15_history_refinement_optimised (M : Core.Module) (hM : ScalarCore M) (hS : NoShadow M) (s : HostState)
    (ops : List HostOp) (outs : List HostOut) (s' : HostState) (hs : s.plain) (hops : ∀ op ∈ ops, op.plain)
    (h : HostRun (InvRef M) s ops outs s') :
    HostRun (InvVM (Opt.optProgram (lowerModule M))) s ops outs s' ∧ s'.plain :=
  HostRun.imp (fun fn args g v g' as hargs hg ⟨fuel, href⟩ =>
    ⟨C01_opt_compile_correct M hM hS fuel fn args g v g' as hargs hg href,
      (C01_globals_plain M hM fuel fn args g v g' as hargs hg href).1⟩) hs hops h

#print axioms C15_history_refinement_optimised

theorem C15_isolated (Inv : InvRel) (s : HostState) (op : HostOp) (out : HostOut) (s' : HostState)
    (h : HostStep Inv s op out s') (j : Nat)
    (hj : match op with | .set i _ _ => j ≠ i | .get _ _ => True | .invoke i _ _ => j ≠ i) : s' j = s j := by
  cases h with
  | set i n v => simp [HostState.upd, hj]
  | get i n => rfl
  | invoke i fn args v g' as _ => simp [HostState.upd, hj]

#print axioms C15_isolated

/-- Globals change only through invocations and `SetGlobal`: a `GetGlobal` returns the stored value and changes nothing. -/
theorem C15_get_reads_store (Inv : InvRel) (s : HostState) (i : Nat) (n : String) (out : HostOut) (s' : HostState)
    (h : HostStep Inv s (.get i n) out s') : out = .got (Map.get (s i) n) ∧ s' = s := by
  cases h; exact ⟨rfl, rfl⟩

#print axioms C15_get_reads_store

theorem C15_fresh_locals (P : Program) (fuel : Nat) (fn : String) (args : List Val) (g : Globals) (f : Func)
    (hf : P.find fn = some f) :
    VM.invoke P fuel fn args g = run P fuel f 0 { regs := [], locals := [], args := args } g := by
  rw [invoke_eq_callD]
  exact callD_some hf fuel args g

#print axioms C15_fresh_locals

theorem C15_vm_deterministic (P : Program) (fn : String) (args : List Val) (g : Globals) (v1 v2 : Val)
    (g1 g2 : Globals) (a1 a2 : List Val) (h1 : InvVM P fn args g v1 g1 a1) (h2 : InvVM P fn args g v2 g2 a2) :
    Res.done v1 g1 a1 = Res.done v2 g2 a2 := by
  obtain ⟨f1, e1⟩ := h1
  obtain ⟨f2, e2⟩ := h2
  have e1' := C01_fuel_irrelevant P f1 (max f1 f2) fn args g v1 g1 a1 e1 (Nat.le_max_left ..)
  have e2' := C01_fuel_irrelevant P f2 (max f1 f2) fn args g v2 g2 a2 e2 (Nat.le_max_right ..)
  rw [← e1', ← e2']

#print axioms C15_vm_deterministic

/-- Non-vacuity: a three-operation history on two VMs of the example module. -/
def exS0 : HostState := fun _ => [("g", .int 0)]

example : HostRun (InvRef C01Ex.M) exS0
    [.set 0 "g" (.int 10), .invoke 0 "f" [.int 5], .get 1 "g"]
    [.unit, .ret (.int 13) [.int 5], .got (some (.int 0))]
    ((exS0.upd 0 (Map.set (exS0 0) "g" (.int 10))).upd 0 [("g", .int 16)]) := by
  refine .cons (.set _ 0 "g" (.int 10)) (.cons (.invoke _ 0 "f" [.int 5] (.int 13) [("g", .int 16)] [.int 5] ⟨200, ?_⟩)
    (.cons (.get _ 1 "g") (.nil _)))
  exact C01Ex.ref_run

end Nsl
