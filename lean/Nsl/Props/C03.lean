import Nsl.Props.C01
import Nsl.Props.C01Storage
import Nsl.Props.LowerOK
import Nsl.Props.C04Sim
import Nsl.Props.LowerOKVector
/-!
# C03 – calls pass arguments by value into isolated frames and reach the chosen overload

1. `C03_call_isolated` (VM model, any program, any callee – well-behaved or not): a `CALL` instruction that completes
   changes nothing of the calling activation except its destination register: the caller's argument list, its locals
   and every other register are exactly as before, whatever the callee did to its own parameters and locals.  The
   callee starts from a fresh frame holding only the evaluated arguments (`C03_callee_fresh_frame`).
2. `C03_reference_by_value`: in the reference semantics a call leaves the caller's frame exactly as it was after the
   evaluation of the arguments.  With `C01_compile_correct` this transfers to the VM for every call graph of the
   scalar core: nested, repeated, direct and mutual recursion (`C03_vm_agrees_with_reference`).
3. `C03_callee_is_resolved_name`: the lowering emits the call to exactly the (mangled or exported) name the typed
   core carries, i.e. the statically resolved overload (resolution itself is property C10), and the program table
   looks functions up by that name (`Sim.find_lowerModule`).
-/
namespace Nsl
open Core VM Lower CoreSem

/-- A completed call changes only the destination register of the caller. -/
theorem C03_call_isolated (cf : String → List Val → Globals → Res) (code : List Instr) (pc : Nat) (fr : Frame)
    (g : Globals) (dst : Nat) (ty : ITy) (fn : String) (args : List Opd) (pc' : Nat) (fr' : Frame) (g' : Globals)
    (hc : code[pc]? = some (.call dst ty fn args))
    (h : stepI cf code pc fr g = .next pc' fr' g') :
    fr'.args = fr.args ∧ fr'.locals = fr.locals ∧ (∀ r, r ≠ dst → Map.get fr'.regs r = Map.get fr.regs r) ∧
      pc' = pc + 1 := by
  rw [stepI_call hc] at h
  cases hv : evalVals fr g args with
  | error e => rw [hv] at h; cases h
  | ok vs =>
    rw [liftE_ok hv] at h
    cases hr : cf fn vs g with
    | fail e => rw [hr] at h; cases h
    | done v g1 as =>
      rw [hr] at h
      cases h
      exact ⟨rfl, rfl, fun r hr' => Map.get_set_ne _ _ _ _ (fun h => hr' h.symm), rfl⟩

#print axioms C03_call_isolated

/-- The callee runs in a frame of its own: only the evaluated arguments, no locals, no registers of the caller. -/
theorem C03_callee_fresh_frame (P : Program) (D : Nat) (name : String) (vs : List Val) (g : Globals) (callee : Func)
    (hf : P.find name = some callee) :
    callD P D name vs g = run P D callee 0 { regs := [], locals := [], args := vs } g :=
  callD_some hf D vs g

#print axioms C03_callee_fresh_frame

/-- Reference semantics: the caller's frame after a call is its frame after evaluating the arguments. -/
theorem C03_reference_by_value (M : Core.Module) (n : Nat) (fn : String) (ty : ITy) (args : Args) (fr : Frame)
    (g : Globals) (v : Val) (fr' : Frame) (g' : Globals)
    (h : evalE M (n + 1) (.call fn ty args) fr g = .val v fr' g') :
    ∃ vs g1 as, evalArgs M n args fr g = .vals vs fr' g1 ∧ callFn M n fn vs g1 = .done v g' as := by
  simp only [evalE] at h
  cases h1 : evalArgs M n args fr g with
  | fail er => simp [h1] at h
  | vals vs fr1 g1 =>
    simp only [h1] at h
    cases h2 : callFn M n fn vs g1 with
    | fail er => simp [h2] at h
    | done w g2 as =>
      simp only [h2, EOut.val.injEq] at h
      obtain ⟨rfl, rfl, rfl⟩ := h
      exact ⟨vs, g1, as, rfl, h2⟩

#print axioms C03_reference_by_value

/-- For every call graph of the scalar core the VM computes what the by-value reference semantics computes. -/
theorem C03_vm_agrees_with_reference (M : Core.Module) (hM : ScalarCore M) (fuel : Nat) (name : String)
    (args : List Val) (g : Globals) (v : Val) (g' : Globals) (as : List Val)
    (hargs : HostVals args) (hg : HostGlobals g)
    (href : CoreSem.invoke M fuel name args g = .done v g' as) :
    ∃ fuel', VM.invoke (lowerModule M) fuel' name args g = .done v g' as :=
  C01_compile_correct M hM fuel name args g v g' as hargs hg href

#print axioms C03_vm_agrees_with_reference

theorem C03_vm_agrees_with_reference_storage (M : Core.Module) (hM : StorageCore M) (fuel : Nat) (name : String)
    (args : List Val) (g : Globals) (v : Val) (g' : Globals) (as : List Val)
    (hargs : HostVals args) (hg : HostGlobals g)
    (href : CoreSem.invoke M fuel name args g = .done v g' as) :
    ∃ fuel', VM.invoke (lowerModule M) fuel' name args g = .done v g' as :=
  C01_compile_correct_storage M hM fuel name args g v g' as hargs hg href

#print axioms C03_vm_agrees_with_reference_storage

/-- Forwarding loads and folding casts across the code that surrounds calls does not let a callee's writes leak
into the caller. -/
theorem C03_optimised_vm_agrees_with_reference (M : Core.Module) (hM : ScalarCore M) (hS : NoShadow M) (fuel : Nat)
    (name : String) (args : List Val) (g : Globals) (v : Val) (g' : Globals) (as : List Val)
    (hargs : HostVals args) (hg : HostGlobals g)
    (href : CoreSem.invoke M fuel name args g = .done v g' as) :
    ∃ fuel', VM.invoke (Opt.optProgram (lowerModule M)) fuel' name args g = .done v g' as :=
  C01_opt_compile_correct M hM hS fuel name args g v g' as hargs hg href

#print axioms C03_optimised_vm_agrees_with_reference

theorem C03_vm_agrees_with_reference_vector (M : Core.Module) (hM : VectorCore M) (fuel : Nat) (name : String)
    (args : List Val) (g : Globals) (v : Val) (g' : Globals) (as : List Val)
    (hargs : HostArgsFit M name args) (hg : GlobalsFit M.globals g)
    (href : CoreSem.invoke M fuel name args g = .done v g' as) :
    ∃ fuel', VM.invoke (lowerModule M) fuel' name args g = .done v g' as :=
  C04_compile_correct_vector M hM fuel name args g v g' as hargs hg href

#print axioms C03_vm_agrees_with_reference_vector

theorem C03_optimised_vm_agrees_with_reference_vector (M : Core.Module) (hM : VectorCore M) (hS : NoShadow M)
    (fuel : Nat) (name : String) (args : List Val) (g : Globals) (v : Val) (g' : Globals) (as : List Val)
    (hargs : HostArgsFit M name args) (hg : GlobalsFit M.globals g)
    (href : CoreSem.invoke M fuel name args g = .done v g' as) :
    ∃ fuel', VM.invoke (Opt.optProgram (lowerModule M)) fuel' name args g = .done v g' as :=
  C04_opt_compile_correct_vector M hM hS fuel name args g v g' as hargs hg href

#print axioms C03_optimised_vm_agrees_with_reference_vector

/-- The lowering of a call names exactly the resolved callee and passes the lowered arguments in order. -/
theorem C03_callee_is_resolved_name (fn : String) (ty : ITy) (args : Args) (k : Nat) :
    ∃ c os k1, lowerArgs args k = (c, os, k1) ∧
      lowerE (.call fn ty args) k = (c ++ [.call k1 ty fn os], .ref k1, k1 + 1) := by
  rcases h : lowerArgs args k with ⟨c, os, k1⟩
  exact ⟨c, os, k1, rfl, by simp [lowerE, h]⟩

#print axioms C03_callee_is_resolved_name

/-- Non-vacuity: the recursive `fact` of `C01Ex` — the caller reads its own parameter after the recursive call. -/
example : CoreSem.invoke C01Ex.M 100 "fact" [.int 5] [] = .done (.int 120) [] [.int 5] := by rfl

end Nsl
