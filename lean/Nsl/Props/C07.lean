import Nsl.Model.Wasm
import Nsl.Proofs.Wasm
import Nsl.Proofs.WasmGen

/-!
# C07 — every emitted WebAssembly binary is well-formed and valid

Model: `Nsl.Model.Wasm`.
* `encModule` mirrors `Module.WriteTo` of `nsl/WebAssembly.py` (`Py.encModule` is the same writer
  literally through `PackInteger`);
* `decModule` is a decoder written from the WebAssembly 1.0 binary format;
* `validModule` is the WebAssembly 1.0 validation algorithm for the subset;
* `genWasm` mirrors `nsl/passes/GenerateWasm.py` on the linear IR.
-/

namespace Nsl.Wasm
open Nsl.Leb

theorem encModulePy_eq (m : WModule) : Py.encModule m = encModule m := by
  simp only [Py.encModule, encModule, py_encOptSection_eq, py_encVec_eq, sectionBytesPy_eq,
    py_encFuncType_eq, py_encTable_eq, py_encExport_eq, py_encCode_eq, py_wInt_eq']
#print axioms encModulePy_eq

/-- For every module whose `i32.const` immediates are signed 32-bit numbers and whose `f32.const`
immediates are 32-bit patterns (nothing else is required), the decoder accepts the written bytes,
consumes them exactly and returns the module. -/
theorem dec_enc (m : WModule) (h : WellFormed m) : decModule (encModule m) = some m := by
  have hwf : ∀ c ∈ m.codes, ∀ i ∈ c.body, instrWF i = true := by
    simpa only [WellFormed, wellFormed, List.all_eq_true] using h
  -- from the last section to the first: each is decoded, and what follows it starts with a larger id
  have e5 : decSectionOpt 10 decCode (encOptSection 10 encCode m.codes ++ []) = some (m.codes, []) :=
    decSectionOpt_enc 10 m.codes (fun c hc r => decCode_enc c (hwf c hc) r) [] (headGt_nil _)
  rw [List.append_nil] at e5
  have g5 : HeadGt 7 (encOptSection 10 encCode m.codes) := by
    have := headGt_opt (k := 7) (id := 10) (by decide) encCode m.codes (headGt_nil 7)
    rwa [List.append_nil] at this
  have e4 := decSectionOpt_enc 7 m.exports (fun e _ r => decExport_enc e r) _ g5
  have g4 : HeadGt 4 (encOptSection 7 encExport m.exports ++ encOptSection 10 encCode m.codes) :=
    headGt_opt (by decide) _ _ (g5.mono (by decide))
  have e3 := decSectionOpt_enc 4 m.tables (fun e _ r => decTable_enc e r) _ g4
  have g3 : HeadGt 3 (encOptSection 4 encTable m.tables ++
      (encOptSection 7 encExport m.exports ++ encOptSection 10 encCode m.codes)) :=
    headGt_opt (by decide) _ _ (g4.mono (by decide))
  have e2 := decSectionOpt_enc 3 m.funcs (fun e _ r => decIdx_enc e r) _ g3
  have e1 := decSectionOpt_present 1 m.types (fun e _ r => decFuncType_enc e r)
    (encOptSection 3 encU m.funcs ++ (encOptSection 4 encTable m.tables ++
      (encOptSection 7 encExport m.exports ++ encOptSection 10 encCode m.codes)))
  unfold decModule encModule
  have htake : ∀ r : List Nat, (magic ++ (version ++ r)).take 8 =
      [0x00, 0x61, 0x73, 0x6D, 0x01, 0x00, 0x00, 0x00] := fun _ => rfl
  have hdrop : ∀ r : List Nat, (magic ++ (version ++ r)).drop 8 = r := fun _ => rfl
  rw [htake, hdrop, if_pos rfl]
  simp only [e1, e2, e3, e4, e5, if_true]
#print axioms dec_enc

/-- The same for the bytes exactly as the Python writes them. -/
theorem dec_encPy (m : WModule) (h : WellFormed m) : decModule (Py.encModule m) = some m := by
  rw [encModulePy_eq]; exact dec_enc m h
#print axioms dec_encPy

/-- Hence the writer is injective on encodable modules. -/
theorem encModule_injective (m m' : WModule) (h : WellFormed m) (h' : WellFormed m')
    (he : encModule m = encModule m') : m = m' := by
  have := dec_enc m h
  rw [he, dec_enc m' h'] at this
  exact (Option.some.inj this).symm
#print axioms encModule_injective

/-- Everything the writer emits is a byte. -/
theorem encModule_bytes (m : WModule) : ∀ b ∈ Py.encModule m, b < 256 := by
  rw [encModulePy_eq]; exact allBytes_encModule m
#print axioms encModule_bytes

/-- Section structure of the output: after the 8-byte preamble the output
is exactly a sequence of sections `id, LEB128(size), size bytes`; the ids are strictly ascending
and among 1, 3, 4, 7, 10; a scanner that only reads ids and size fields splits the output into
exactly these sections, i.e. every size field equals the number of payload bytes that follow and
the last section ends at the end of the output. -/
theorem enc_sections_ascending_exact (m : WModule) :
    encModule m = magic ++ (version ++ (sectionsOf m).flatMap fun s => sectionBytes s.1 s.2) ∧
    ((sectionsOf m).map (·.1)).Pairwise (· < ·) ∧
    (∀ s ∈ sectionsOf m, s.1 ∈ [1, 3, 4, 7, 10]) ∧
    scanSections (sectionsOf m).length ((encModule m).drop 8) = some (sectionsOf m) := by
  refine ⟨encModule_sections m, sectionsOf_ascending m,
    fun s hs => (sectionIds_sublist m).subset (List.mem_map_of_mem hs), ?_⟩
  · rw [encModule_sections]
    have : (magic ++ (version ++ (sectionsOf m).flatMap fun s => sectionBytes s.1 s.2)).drop 8 =
        (sectionsOf m).flatMap fun s => sectionBytes s.1 s.2 := by simp [magic, version]
    rw [this, scanSections_flatMap]
#print axioms enc_sections_ascending_exact

/-- Code bodies: the payload of the code section is a vector of size-prefixed bodies; reading only
the count and the size fields splits it into exactly the bodies, and every body ends with `end`
(`0x0B`). -/
theorem enc_code_bodies_exact (cs : List WCode) (rest : List Nat) :
    decVec unframe (encVec encCode cs ++ rest) = some (cs.map encCodeBody, rest) ∧
    ∀ c ∈ cs, (encCodeBody c).getLast? = some 0x0B := by
  constructor
  · have h := decVec_enc (p := unframe) (f := frame) (cs.map encCodeBody)
      (fun x _ r => unframe_frame x r) rest
    simp only [encVec, List.length_map, List.flatMap_map] at h
    have he : encCode = fun a => frame (encCodeBody a) := rfl
    simpa only [encVec, he] using h
  · intro c _
    simp [encCodeBody, ← List.append_assoc]
#print axioms enc_code_bodies_exact

theorem genWasm_wellFormed (P : List Func) (m : WModule) (h : genWasm P = .ok m) :
    WellFormed m :=
  genWasmWith_wellFormed packF32_ok h
#print axioms genWasm_wellFormed

/-- Every generated module survives the round trip through the binary format. -/
theorem genWasm_roundtrip (P : List Func) (m : WModule) (h : genWasm P = .ok m) :
    decModule (Py.encModule m) = some m :=
  dec_encPy m (genWasm_wellFormed P m h)
#print axioms genWasm_roundtrip

/-- Validity: if the IR is typed (operands have the types the instructions expect, functions with
a result contain a `return`, function names are distinct) then whatever the generator emits passes
WebAssembly validation. -/
theorem genWasm_valid (P : List Func) (m : WModule) (h : genWasm P = .ok m) (ht : IRTyped P) :
    validModule m = true :=
  genWasmWith_valid h ht
#print axioms genWasm_valid

/-- The same two statements for an arbitrary float packer whose results are 32-bit patterns (`Float`
arithmetic is opaque to the kernel, so what is computed below uses the stand-in `fbStub` for `packF32`). -/
theorem genWasmWith_sound (fb : Float → Option Nat) (hfb : ∀ f b, fb f = some b → b < 2 ^ 32)
    (P : List Func) (m : WModule) (h : genWasmWith fb P = .ok m) :
    decModule (Py.encModule m) = some m ∧ (IRTyped P → validModule m = true) :=
  ⟨dec_encPy m (genWasmWith_wellFormed hfb h), genWasmWith_valid h⟩
#print axioms genWasmWith_sound

/-- `int f(int a, int b) { int t = a * b + 7 - a; b = t < 100; return t; }` after lowering. -/
def exInt : Func := ⟨"f", [("a", .sc .int), ("b", .sc .int)], .sc .int,
  [.label 0,
   .load 1 (.sc .int) .arg (.index 0), .load 2 (.sc .int) .arg (.index 1),
   .bin 3 (.s .mul) (.sc .int) (.ref 1) (.ref 2),
   .bin 4 (.s .add) (.sc .int) (.ref 3) (.cInt 7),
   .load 5 (.sc .int) .arg (.index 0),
   .bin 6 (.s .sub) (.sc .int) (.ref 4) (.ref 5),
   .bin 7 (.s .lt) (.sc .int) (.ref 6) (.cInt 100),
   .store .arg (.index 1) (.ref 7),
   .ret (some (.ref 6))]⟩

/-- `float g(float x) { float y = x * 1.5; int c = y > 1.5; return y; }` after lowering. -/
def exFlt : Func := ⟨"g", [("x", .sc .float)], .sc .float,
  [.label 0,
   .load 1 (.sc .float) .arg (.index 0),
   .bin 2 (.s .mul) (.sc .float) (.ref 1) (.cFlt 1.5),
   .bin 3 (.s .gt) (.sc .int) (.ref 2) (.cFlt 1.5),
   .ret (some (.ref 2))]⟩

/-- Stand-in for `packF32` in kernel computations: the pattern of `1.5f`. -/
def fbStub : Float → Option Nat := fun _ => some 0x3FC00000

-- the real packer agrees on the constant used (evaluated, not proved: `Float` is opaque)
#guard packF32 1.5 == some 0x3FC00000

def exModule : WModule where
  types := [⟨[.i32, .i32], [.i32]⟩, ⟨[.f32], [.f32]⟩]
  funcs := [0, 1]
  tables := [0]
  exports := [⟨"f", 0⟩, ⟨"g", 1⟩]
  codes :=
    [⟨[(8, .i32)],
      [.localGet 0, .localSet 2, .localGet 1, .localSet 3,
       .localGet 2, .localGet 3, .num .i32Mul, .localSet 4,
       .localGet 4, .i32Const 7, .num .i32Add, .localSet 5,
       .localGet 0, .localSet 6,
       .localGet 5, .localGet 6, .num .i32Sub, .localSet 7,
       .localGet 7, .i32Const 100, .num .i32LtS, .localSet 8,
       .localGet 8, .localSet 1,
       .localGet 7, .ret]⟩,
     ⟨[(2, .f32), (1, .i32)],
      [.localGet 0, .localSet 1,
       .localGet 1, .f32Const 0x3FC00000, .num .f32Mul, .localSet 2,
       .localGet 2, .f32Const 0x3FC00000, .num .f32Gt, .localSet 3,
       .localGet 2, .ret]⟩]

theorem exModule_gen : genWasmWith fbStub [exInt, exFlt] = .ok exModule := by decide +kernel

example : genWasmWith fbStub [exInt, exFlt] = .ok exModule := exModule_gen

/-- With the real packer `packF32`, given only its value on the constant `1.5`. -/
example (h : packF32 1.5 = some 0x3FC00000) : genWasm [exInt, exFlt] = .ok exModule := by
  -- the program asks the packer for `1.5` only
  have e : ∀ fb : Float → Option Nat,
      genWasmWith fb [exInt, exFlt] = genWasmWith (fun _ => fb 1.5) [exInt, exFlt] := fun _ => rfl
  rw [genWasm, e, h]
  exact exModule_gen

/-- The hypotheses of `genWasm_valid` hold for it, and the module validates (by computation). -/
example : IRTyped [exInt, exFlt] := by decide +kernel
example : validModule exModule = true := by decide +kernel
example : WellFormed exModule := by decide +kernel

/-- The written bytes, and the round trip through the independent decoder (by computation). -/
example : hex (Py.encModule exModule) =
    "0061736d01000000010c0260027f7f017f60017d017d030302000104040170000007090201660000016700010a58023401087f2000210220012103200220036c2104200441076a210520002106200520066b2107200741e4004821082008210120070f0b2102027d017f200021012001430000c03f9421022002430000c03f5e210320020f0b" := by
  decide +kernel
example : decModule (Py.encModule exModule) = some exModule := dec_encPy exModule (by decide +kernel)

/-- Negative examples: the validator and the decoder reject what they should. -/
-- a body that leaves the result missing
example : validModule { exModule with codes := [⟨[], []⟩, ⟨[], []⟩] } = false := by decide +kernel
-- an f32 operand for an i32 instruction
example : checkCode ⟨[.f32, .i32], [.i32]⟩ ⟨[], [.localGet 0, .localGet 1, .num .i32Add]⟩ = false := by
  decide +kernel
-- values left on the stack at `end`
example : checkCode ⟨[.i32], []⟩ ⟨[], [.localGet 0]⟩ = false := by decide +kernel
-- local index out of range
example : checkCode ⟨[.i32], []⟩ ⟨[(1, .i32)], [.localGet 2, .localSet 0]⟩ = false := by decide +kernel
-- after `return` the stack is polymorphic
example : checkCode ⟨[.i32], [.i32]⟩ ⟨[], [.localGet 0, .ret, .num .i32Add]⟩ = true := by decide +kernel
-- a wrong section size, sections out of order, a trailing byte, an unknown opcode
example : decModule ([0, 0x61, 0x73, 0x6D, 1, 0, 0, 0] ++ [1, 2, 0]) = none := by decide +kernel
example : decModule ([0, 0x61, 0x73, 0x6D, 1, 0, 0, 0] ++ [3, 1, 0] ++ [1, 1, 0]) = none := by
  decide +kernel
example : decModule ([0, 0x61, 0x73, 0x6D, 1, 0, 0, 0] ++ [1, 1, 0] ++ [0]) = none := by
  decide +kernel
example : decModule ([0, 0x61, 0x73, 0x6D, 1, 0, 0, 0] ++ [1, 1, 0]) = some ⟨[], [], [], [], []⟩ := by
  decide +kernel
example : decCodeBody [0, 0x1A, 0x0B] = none := by decide +kernel
example : decCodeBody [0, 0x0B, 0x0B] = none := by decide +kernel
-- `IRTyped` cannot be dropped from `genWasm_valid`: the generator does not type-check, an
-- ill-typed IR function (int addition of two float values) is translated into an invalid module
example : ∃ m, genWasm [⟨"bad", [("x", .sc .float)], .sc .int,
      [.load 1 (.sc .float) .arg (.index 0), .bin 2 (.s .add) (.sc .int) (.ref 1) (.ref 1),
       .ret (some (.ref 2))]⟩] = .ok m ∧ validModule m = false :=
  ⟨_, rfl, by decide +kernel⟩
-- the generator refuses what it cannot translate
example : (match genWasm [⟨"h", [], .void, [.br 0]⟩] with | .ok _ => false | .error _ => true) = true := by
  decide +kernel

end Nsl.Wasm
