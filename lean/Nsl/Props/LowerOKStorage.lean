import Nsl.Proofs.LowerAccStorage
import Nsl.Props.C01Storage
import Nsl.Props.C02
/-!
# The lowering model only produces block-local, single-definition, forwardable code (STORAGE core)

`Props/LowerOK.lean` for the larger domain `StorageCore` (scalar core + LOCAL arrays / structs / arrays of structs used
as storage).  For every module `M` of the storage core, every function of `Lower.lowerModule M` satisfies the side
conditions `optOK` under which the optimiser model is proved correct (`C02_opt_correct`):
* `lower_defsDistinct_storage`, `lower_blockLocal_storage` – hold of every lowered function;
* `lower_forwardOK_storage` – needs in addition the SAME decidable hypothesis as the scalar result, `NoShadow M`
  (inside one function no variable key is accessed under two different scopes).  No further hypothesis: that a store
  directly followed by a load of the same variable never forwards an aggregate alias follows from the rank discipline
  of `StorageCore` (a `store` writes a local of rank 0, an aggregate `load` reads a local of positive rank, and a name
  has one rank).  `NoShadow` is needed for the aggregate clause too: `LowerOKSEx.shadowAgg_not_forwardOK`.
Composition with C01 (stage 2) and C02: `C01_opt_compile_correct_storage` — the OPTIMISING compiler model is correct on
the storage core.
-/
namespace Nsl
open Core VM Lower Opt

set_option linter.unusedVariables false in
/-- `hM` is not used: `defsDistinct` holds of every lowered function. -/
theorem lower_defsDistinct_storage (M : Core.Module) (hM : StorageCore M)
    (f : Func) (hf : f ∈ (Lower.lowerModule M).funcs) : defsDistinct f.code = true := by
  revert f; exact forall_lowerModule fun fd _ => lowerFn_defsDistinct_general fd

#print axioms lower_defsDistinct_storage

set_option linter.unusedVariables false in
/-- `hM` is not used: `blockLocal` holds of every lowered function. -/
theorem lower_blockLocal_storage (M : Core.Module) (hM : StorageCore M)
    (f : Func) (hf : f ∈ (Lower.lowerModule M).funcs) : blockLocal [] f.code = true := by
  revert f; exact forall_lowerModule fun fd _ => lowerFn_blockLocal_general fd

#print axioms lower_blockLocal_storage

theorem lower_forwardOK_storage (M : Core.Module) (hM : StorageCore M) (hS : NoShadow M)
    (f : Func) (hf : f ∈ (Lower.lowerModule M).funcs) : forwardOK none (pass ccDecide f.code) = true := by
  revert f; exact forall_lowerModule fun fd hfd => lowerFn_forwardOKS fd (hM fd hfd) (hS fd hfd)

#print axioms lower_forwardOK_storage

theorem lower_optOK_storage (M : Core.Module) (hM : StorageCore M) (hS : NoShadow M)
    (f : Func) (hf : f ∈ (Lower.lowerModule M).funcs) : optOK f = true := by
  revert f; exact forall_lowerModule fun fd hfd => lowerFn_optOKS fd (hM fd hfd) (hS fd hfd)

#print axioms lower_optOK_storage

/-- The optimising compiler is correct on the storage core: hypotheses of `C01_compile_correct_storage` plus
`NoShadow M`; the conclusion is the same with `lowerModule M` replaced by `optProgram (lowerModule M)`. -/
theorem C01_opt_compile_correct_storage (M : Core.Module) (hM : StorageCore M) (hS : NoShadow M)
    (fuel : Nat) (name : String) (args : List Val) (g : Globals) (v : Val) (g' : Globals) (as : List Val)
    (hargs : HostVals args) (hg : HostGlobals g)
    (href : CoreSem.invoke M fuel name args g = .done v g' as) :
    ∃ fuel', VM.invoke (Opt.optProgram (Lower.lowerModule M)) fuel' name args g = .done v g' as :=
  (C01_compile_correct_storage M hM fuel name args g v g' as hargs hg href).imp fun fuel' h =>
    C02_opt_correct (lowerModule M) (lower_optOK_storage M hM hS) fuel' name args g v g' as h

#print axioms C01_opt_compile_correct_storage

/-- The same in the shape of `C01_Statement`, for the domain `StorageCore ∧ NoShadow` and the optimised program. -/
theorem C01_opt_statement_storage :
    ∀ (M : Core.Module), StorageCore M ∧ NoShadow M →
    ∀ (fuel : Nat) (name : String) (args : List Val) (g : Globals) (v : Val) (g' : Globals) (as : List Val),
      HostVals args → HostGlobals g →
      CoreSem.invoke M fuel name args g = .done v g' as →
      ∃ fuel', VM.invoke (Opt.optProgram (lowerModule M)) fuel' name args g = .done v g' as :=
  fun M hM fuel name args g v g' as ha hg href =>
    C01_opt_compile_correct_storage M hM.1 hM.2 fuel name args g v g' as ha hg href

#print axioms C01_opt_statement_storage

example (M : Core.Module) (hM : ScalarCore M) (hS : NoShadow M) : ∀ f ∈ (lowerModule M).funcs, optOK f = true :=
  lower_optOK_storage M (scalarCore_storageCore hM) hS

namespace LowerOKSEx
open C01StorEx

/-- The module of `C01StorEx` (local `int a[2][3]`, struct `P s`, array of structs `P ps[2]`, nested `for`, `while`,
element/field writes, `++`/`--` on elements, an index with a side effect, a global) has no shadowing. -/
theorem noShadow : NoShadow C01StorEx.M := by
  intro fn hfn
  simp only [C01StorEx.M, List.mem_cons, List.mem_nil_iff, or_false] at hfn
  subst hfn; decide

example : ∀ f ∈ (lowerModule C01StorEx.M).funcs,
    defsDistinct f.code = true ∧ blockLocal [] f.code = true ∧ forwardOK none (pass ccDecide f.code) = true ∧
      optOK f = true :=
  fun f hf => ⟨lower_defsDistinct_storage _ C01StorEx.storageCore f hf,
    lower_blockLocal_storage _ C01StorEx.storageCore f hf,
    lower_forwardOK_storage _ C01StorEx.storageCore noShadow f hf,
    lower_optOK_storage _ C01StorEx.storageCore noShadow f hf⟩

/-- The OPTIMISED lowered program returns 1022 and leaves g = 10 on `f(5)`. -/
example : ∃ fuel', VM.invoke (optProgram (lowerModule C01StorEx.M)) fuel' "f" [.int 5] [("g", .int 0)] =
    .done (.int 1022) [("g", .int 10)] [.int 5] :=
  C01_opt_compile_correct_storage C01StorEx.M C01StorEx.storageCore noShadow 400 "f" [.int 5] [("g", .int 0)] _ _ _
    (by intro a ha; simp at ha; subst ha; rfl)
    (by intro n x hx; simp [Map.get] at hx; obtain ⟨_, rfl⟩ := hx; rfl)
    C01StorEx.ref_run

/-! ### A small function with a 2-D array and a struct whose lowered code is optimised

```
function demo(int n) -> int { int a[2][3]; P s; int x = n; a[1][x] = x + 1; s.y = a[1][x]; return s.y + x; }
``` -/
def demo : FnDef := ⟨"demo", [("n", i32)], i32,
  .seq (.decl "a" arrT none)
  (.seq (.decl "s" pT none)
  (.seq (.decl "x" i32 (some (va 0)))
  (.seq (.expr (.assign (a2 (.litI 1) (vl "x")) (b .add (vl "x") (.litI 1))))
  (.seq (.expr (.assign (sf "y") (a2 (.litI 1) (vl "x"))))
        (.ret (some (b .add (sf "y") (vl "x")))))))) ⟩

def Mdemo : Core.Module := ⟨[], [demo]⟩

theorem demo_ok : StorageCore Mdemo ∧ NoShadow Mdemo := by
  constructor <;>
  · intro fn hfn
    simp only [Mdemo, List.mem_cons, List.mem_nil_iff, or_false] at hfn
    subst hfn; decide

example : ¬ ScalarCore Mdemo := by
  intro h
  have := h demo (by simp [Mdemo])
  revert this; decide

theorem demo_code : (lowerFn demo).code =
    [.newVar 0 arrT "a", .newVar 1 pT "s", .newVar 2 i32 "x",
     .load 3 i32 .arg (.index 0), .store .local (.name "x") (.ref 3),
     -- a[1][x] = x + 1   (the load of `x` right after the store is forwarded)
     .load 5 i32 .local (.name "x"), .bin 6 (.s .add) i32 (.ref 5) (.cInt 1),
     .load 7 arrT .local (.name "a"), .loadArr 8 rowT (.ref 7) (.cInt 1), .load 9 i32 .local (.name "x"),
     .storeArr (.ref 8) (.ref 9) (.ref 6),
     -- s.y = a[1][x]
     .load 11 arrT .local (.name "a"), .loadArr 12 rowT (.ref 11) (.cInt 1), .load 13 i32 .local (.name "x"),
     .loadArr 14 i32 (.ref 12) (.ref 13),
     .load 15 pT .local (.name "s"), .storeMem (.ref 15) "y" (.ref 14),
     -- return s.y + x
     .load 17 pT .local (.name "s"), .loadMem 18 i32 (.ref 17) "y", .load 19 i32 .local (.name "x"),
     .bin 20 (.s .add) i32 (.ref 18) (.ref 19), .ret (some (.ref 20))] := by
  simp [lowerFn, demo, lowerS, lowerE, lowerStore, mkBin, fromOperation, Expr.ty, ITy.isMatrix, ITy.isScalar, va, vl, b,
    i32, BOp.toSOp, a2, sf, arrT, rowT, pT]

example : optOK (lowerFn demo) = true :=
  lower_optOK_storage Mdemo demo_ok.1 demo_ok.2 _ (by simp [lowerModule, Mdemo])

/-- Cross-check by evaluating the checker on `demo_code`. -/
example : optOK (lowerFn demo) = true := by
  simp only [optOK, demo_code]; decide +kernel

/-- the load of `x` after the store is forwarded; the aggregate loads (aliases of `a`, `s`) stay -/
example : (optFn (lowerFn demo)).code =
    [.newVar 0 arrT "a", .newVar 1 pT "s", .newVar 2 i32 "x",
     .load 3 i32 .arg (.index 0), .store .local (.name "x") (.ref 3),
     .bin 6 (.s .add) i32 (.ref 3) (.cInt 1),
     .load 7 arrT .local (.name "a"), .loadArr 8 rowT (.ref 7) (.cInt 1), .load 9 i32 .local (.name "x"),
     .storeArr (.ref 8) (.ref 9) (.ref 6),
     .load 11 arrT .local (.name "a"), .loadArr 12 rowT (.ref 11) (.cInt 1), .load 13 i32 .local (.name "x"),
     .loadArr 14 i32 (.ref 12) (.ref 13),
     .load 15 pT .local (.name "s"), .storeMem (.ref 15) "y" (.ref 14),
     .load 17 pT .local (.name "s"), .loadMem 18 i32 (.ref 17) "y", .load 19 i32 .local (.name "x"),
     .bin 20 (.s .add) i32 (.ref 18) (.ref 19), .ret (some (.ref 20))] := by
  simp only [optFn, demo_code]; rfl

/-- The reference run of the demo, and (by the theorem) the run of the OPTIMISED compiled program: `demo(1)`
stores 2 into `a[1][1]`, copies it to `s.y`, returns `2 + 1`. -/
theorem demo_ref : CoreSem.invoke Mdemo 50 "demo" [.int 1] [] = .done (.int 3) [] [.int 1] := by
  rfl

example : ∃ fuel', VM.invoke (optProgram (lowerModule Mdemo)) fuel' "demo" [.int 1] [] = .done (.int 3) [] [.int 1] :=
  C01_opt_compile_correct_storage Mdemo demo_ok.1 demo_ok.2 50 "demo" [.int 1] [] _ _ _
    (by intro a ha; simp at ha; subst ha; rfl)
    (by intro n x hx; simp [Map.get] at hx)
    demo_ref

/-! ### `NoShadow` is needed for the aggregate clause of `forwardOK` as well

`function shadowAgg() -> int { int a[3]; return (::a = 1) + a[0]; }` with a global scalar `a` and a local array `a`:
in the storage core, block-local and single-definition, but the store to the global `a` is directly followed by the
(aggregate) load of the local `a` — the optimiser model would forward the stored `1` as the array alias. -/
def shadowAgg : FnDef := ⟨"shadowAgg", [], i32,
  .seq (.decl "a" (.arr i32 [3]) none)
    (.ret (some (b .add (.assign (vg "a") (.litI 1))
      (.index .arr i32 (.var .local (.name "a") (.arr i32 [3])) (.litI 0)))))⟩

def MshadowAgg : Core.Module := ⟨[("a", i32)], [shadowAgg]⟩

theorem shadowAgg_storageCore : StorageCore MshadowAgg := by decide

theorem shadowAgg_code : (lowerFn shadowAgg).code =
    [.newVar 0 (.arr i32 [3]) "a", .store .global (.name "a") (.cInt 1),
     .load 2 (.arr i32 [3]) .local (.name "a"), .loadArr 3 i32 (.ref 2) (.cInt 0),
     .bin 4 (.s .add) i32 (.cInt 1) (.ref 3), .ret (some (.ref 4))] := by
  simp [lowerFn, shadowAgg, lowerS, lowerE, lowerStore, mkBin, fromOperation, Expr.ty, ITy.isMatrix, ITy.isScalar, vg, b,
    i32, BOp.toSOp]

theorem shadowAgg_not_forwardOK :
    StorageCore MshadowAgg ∧ ¬ NoShadow MshadowAgg ∧
    ∃ f ∈ (lowerModule MshadowAgg).funcs, defsDistinct f.code = true ∧ blockLocal [] f.code = true ∧
      forwardOK none (pass ccDecide f.code) = false ∧ optOK f = false := by
  refine ⟨shadowAgg_storageCore, ?_, lowerFn shadowAgg, by simp [lowerModule, MshadowAgg], ?_⟩
  · intro h
    have := h shadowAgg (by simp [MshadowAgg])
    revert this; decide
  · refine ⟨lower_defsDistinct_storage _ shadowAgg_storageCore _ (by simp [lowerModule, MshadowAgg]),
      lower_blockLocal_storage _ shadowAgg_storageCore _ (by simp [lowerModule, MshadowAgg]), ?_, ?_⟩
    · rw [shadowAgg_code]; decide +kernel
    · simp only [optOK, shadowAgg_code]; decide +kernel

#print axioms shadowAgg_not_forwardOK

end LowerOKSEx

end Nsl
