import Nsl.Proofs.StorMain
/-!
# C01 – compiled programs compute what the source says (scalar core, VM)

`CoreSem` is the reference semantics of the typed core (C-like: left-to-right evaluation, static types decide
int/float arithmetic, int division truncating toward zero, comparisons and logic yield 0/1, a declaration
zero-initialises each time it executes, `break` leaves and `continue` re-tests the innermost loop with the `for`
increment still run, a call binds its evaluated arguments in a fresh frame).  `Lower.lowerModule` is the model of
`LowerToIR` + `RewriteFunctionArgAccess`, `VM.invoke` the model of `ExecutionContext.Invoke`.

`C01_compile_correct`: for EVERY module of the scalar core (any nesting of expressions, blocks, branches, the three
loop forms with break/continue, calls incl. recursion), every exported or internal function, all argument values and
initial globals: if the reference semantics returns `v` leaving globals `g'` (which entails that the run stayed inside
the stated domain: no division by zero, …), then the VM running the lowered module returns the same value, the same
globals and the same final argument list.  Proved by induction on the fuel of the reference run (`Sim.sim_main`):
the scalar core is contained in the storage core (`Stor.okFn_okFnS`), whose simulation is `Stor.sim_allS`.

Local arrays and structs used as storage are outside `ScalarCore`; for them the same statement is
`C01_compile_correct_storage` (`Props/C01Storage.lean`).
-/
namespace Nsl
open Core VM Lower

/-- Host-supplied values are plain Python values, never the model's internal aliases. -/
def HostVals (args : List Val) : Prop := ∀ a ∈ args, VM.Val.isPtr a = false
def HostGlobals (g : Globals) : Prop := ∀ n x, Map.get g n = some x → VM.Val.isPtr x = false

/-- The statement of C01 for the modules of a domain (false for some: `C01_Statement_vectorCore_false`). -/
def C01_Statement (Domain : Core.Module → Prop) : Prop :=
  ∀ (M : Core.Module), Domain M →
  ∀ (fuel : Nat) (name : String) (args : List Val) (g : Globals) (v : Val) (g' : Globals) (as : List Val),
    HostVals args → HostGlobals g →
    CoreSem.invoke M fuel name args g = .done v g' as →
    ∃ fuel', VM.invoke (lowerModule M) fuel' name args g = .done v g' as

theorem hostVals_iff {args : List Val} : HostVals args ↔ Sim.ListOK args := Iff.rfl
theorem hostGlobals_iff {g : Globals} : HostGlobals g ↔ Sim.MapOK g := Iff.rfl

theorem C01_compile_correct : C01_Statement ScalarCore :=
  fun _ hM _ _ _ _ _ _ _ hargs hg href =>
    (Stor.invoke_correct (fun f hf => Stor.okFn_okFnS (hM f hf)) href (hostVals_iff.1 hargs) (hostGlobals_iff.1 hg)).1

#print axioms C01_compile_correct

/-- The result does not depend on how much fuel the VM is given beyond what it needs. -/
theorem C01_fuel_irrelevant (P : Program) (f f' : Nat) (name : String) (args : List Val) (g : Globals)
    (v : Val) (g' : Globals) (as : List Val)
    (h : VM.invoke P f name args g = .done v g' as) (hle : f ≤ f') :
    VM.invoke P f' name args g = .done v g' as := by
  unfold VM.invoke at h ⊢
  cases hf : P.find name with
  | none => simp [hf] at h
  | some fn =>
    simp only [hf] at h ⊢
    exact run_mono P _ _ _ _ _ _ _ _ h f' hle

#print axioms C01_fuel_irrelevant

/-- Globals stay plain values: what a later invocation or `GetGlobal` sees is never an alias. -/
theorem C01_globals_plain (M : Core.Module) (hM : ScalarCore M) (fuel : Nat) (name : String) (args : List Val)
    (g : Globals) (v : Val) (g' : Globals) (as : List Val) (hargs : HostVals args) (hg : HostGlobals g)
    (href : CoreSem.invoke M fuel name args g = .done v g' as) : HostGlobals g' ∧ VM.Val.isPtr v = false :=
  have h := Stor.invoke_correct (fun f hf => Stor.okFn_okFnS (hM f hf)) href (hostVals_iff.1 hargs) (hostGlobals_iff.1 hg)
  ⟨hostGlobals_iff.2 h.2.2, h.2.1⟩

#print axioms C01_globals_plain

/-! ## Non-vacuity: a module with all three loop forms, break/continue, a recursive call, globals -/
namespace C01Ex
def i32 : ITy := .sc .int
def va (i : Nat) : Expr := .var .arg (.index i) i32
def vl (n : String) : Expr := .var .local (.name n) i32
def vg (n : String) : Expr := .var .global (.name n) i32
def b (op : BOp) (l r : Expr) : Expr := .bin op i32 l r

/-- `function fact(int n) -> int { if (n <= 1) return 1; return fact(n - 1) * n; }` -/
def fact : FnDef := ⟨"fact", [("n", i32)], i32,
  .seq (.ite1 (b .le (va 0) (.litI 1)) (.ret (some (.litI 1))))
       (.ret (some (b .mul (.call "fact" i32 (.cons (b .sub (va 0) (.litI 1)) .nil)) (va 0))))⟩

/-- ```
export function f(int n) -> int {
  int s = 0;
  for (int i = 0; i < n; ++i) { if (i == 2) continue; s = s + i; if (s > 100) break; }
  int j = 0;
  while (j < 3) { j = j + 1; g = g + j; }
  do { s = s + 1; } while (s < 0)
  return s + fact(4) / 5;
}``` -/
def f : FnDef := ⟨"f", [("n", i32)], i32,
  .seq (.decl "s" i32 (some (.litI 0)))
  (.seq (.forL (.decl "i" i32 (some (.litI 0))) (some (b .lt (vl "i") (va 0))) (some (.affix false true (vl "i")))
      (.seq (.ite1 (b .eq (vl "i") (.litI 2)) .cont)
      (.seq (.expr (.assign (vl "s") (b .add (vl "s") (vl "i"))))
            (.ite1 (b .gt (vl "s") (.litI 100)) .brk))))
  (.seq (.decl "j" i32 (some (.litI 0)))
  (.seq (.whileL (b .lt (vl "j") (.litI 3))
      (.seq (.expr (.assign (vl "j") (b .add (vl "j") (.litI 1))))
            (.expr (.assign (vg "g") (b .add (vg "g") (vl "j"))))))
  (.seq (.doL (.expr (.assign (vl "s") (b .add (vl "s") (.litI 1)))) (b .lt (vl "s") (.litI 0)))
        (.ret (some (b .add (vl "s") (b .div (.call "fact" i32 (.cons (.litI 4) .nil)) (.litI 5)))))))))⟩

def M : Core.Module := ⟨[("g", i32)], [fact, f]⟩

theorem scalarCore : ScalarCore M := by
  intro fn hfn
  simp only [M, List.mem_cons, List.mem_nil_iff, or_false] at hfn
  rcases hfn with rfl | rfl <;> rfl

/-- The reference run is in the domain: f(5) = (0+1+3+4) + 1 + 24/5 = 13, g = 10 + 1+2+3. -/
theorem ref_run : CoreSem.invoke M 200 "f" [.int 5] [("g", .int 10)] = .done (.int 13) [("g", .int 16)] [.int 5] := by
  rfl

/-- Hence (by the theorem, not by running it) the VM returns 13 and leaves g = 16. -/
example : ∃ fuel' as, VM.invoke (lowerModule M) fuel' "f" [.int 5] [("g", .int 10)] = .done (.int 13) [("g", .int 16)] as := by
  obtain ⟨fuel', h'⟩ := C01_compile_correct M scalarCore 200 "f" [.int 5] [("g", .int 10)] _ _ _
    (by intro a ha; simp at ha; subst ha; rfl)
    (by intro n x hx; simp [Map.get] at hx; obtain ⟨_, rfl⟩ := hx; rfl)
    ref_run
  exact ⟨fuel', _, h'⟩
end C01Ex

end Nsl
