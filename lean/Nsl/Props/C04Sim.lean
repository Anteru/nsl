import Nsl.Proofs.VecMain
import Nsl.Props.C01
/-!
# C04 (stage 3 of C01) – compiled vector and matrix programs compute what the source says

`VectorCore` (`Nsl/Model/VectorCore.lean`): `ScalarCore`-style programs with vector and matrix VALUES in locals,
parameters and globals — declarations, whole-value assignment, `construct`, swizzle reads and (non-repeating) swizzle
writes, element/row reads and writes with constant or dynamic index, component-wise operators, vector∘scalar,
scalar*vector, matrix product, matrix·vector, row-wise matrix operators (`rowsMM/MS/SM`), calls with vector arguments
and results.  The predicate is a *shape discipline* (every annotation agrees with the declared shape of the variable /
callee / operator).

`C04_compile_correct_vector : C04_Statement VectorCore`.  `C04_Statement` differs from `C01_Statement` in the host
hypothesis: "arguments and globals have the declared shapes" (`HostArgsFit`, `GlobalsFit`) instead of "never an alias
at top level".  The difference is necessary: `C01_Statement VectorCore` is FALSE, proved below by two modules of `VectorCore`
— a host vector with an alias *inside* (`C01_Statement_fails_nested_alias`: reference 1, VM 0) and a host vector of the
wrong length under a swizzle write (`C01_Statement_fails_wrong_length`: the store shuffle is built from the static size).
`ScalarCore` is a form discipline without shape checks, so `ScalarCore M → VectorCore M` fails for ill-annotated modules
(`scalarCore_not_vectorCore`); the union of both domains is covered by `C04_compile_correct_union`.
-/
namespace Nsl
open Core VM Lower

/-- The host passes, for the invoked function, arguments of the declared parameter shapes. -/
def HostArgsFit (M : Core.Module) (name : String) (args : List Val) : Prop :=
  ∀ f, CoreSem.findFn M name = some f → ArgsFit f.params args

/-- `C01_Statement` for typed host values. -/
def C04_Statement (Domain : Core.Module → Prop) : Prop :=
  ∀ (M : Core.Module), Domain M →
  ∀ (fuel : Nat) (name : String) (args : List Val) (g : Globals) (v : Val) (g' : Globals) (as : List Val),
    HostArgsFit M name args → GlobalsFit M.globals g →
    CoreSem.invoke M fuel name args g = .done v g' as →
    ∃ fuel', VM.invoke (lowerModule M) fuel' name args g = .done v g' as

theorem C04_compile_correct_vector : C04_Statement VectorCore :=
  fun _ hM _ _ _ _ _ _ _ hargs hg href => (Vec.invoke_correct hM href hargs hg).1

#print axioms C04_compile_correct_vector

/-- Type preservation across an invocation: the globals keep their declared shapes (so the next invocation may rely on
them) and the result has the shape of the declared result type. -/
theorem C04_result_shapes (M : Core.Module) (hM : VectorCore M) (fuel : Nat) (name : String) (args : List Val)
    (g : Globals) (v : Val) (g' : Globals) (as : List Val) (hargs : HostArgsFit M name args)
    (hg : GlobalsFit M.globals g) (href : CoreSem.invoke M fuel name args g = .done v g' as) :
    GlobalsFit M.globals g' ∧ ∀ f, CoreSem.findFn M name = some f → fits (shape f.ret) v = true :=
  have h := Vec.invoke_correct hM href hargs hg
  ⟨h.2.2, h.2.1⟩

#print axioms C04_result_shapes

/-- Both domains at once (host values: no top-level alias AND of the declared shapes). -/
theorem C04_compile_correct_union (M : Core.Module) (hM : ScalarCore M ∨ VectorCore M)
    (fuel : Nat) (name : String) (args : List Val) (g : Globals) (v : Val) (g' : Globals) (as : List Val)
    (hv : HostVals args) (hgl : HostGlobals g) (hargs : HostArgsFit M name args) (hg : GlobalsFit M.globals g)
    (href : CoreSem.invoke M fuel name args g = .done v g' as) :
    ∃ fuel', VM.invoke (lowerModule M) fuel' name args g = .done v g' as := by
  rcases hM with hM | hM
  · exact C01_compile_correct M hM fuel name args g v g' as hv hgl href
  · exact C04_compile_correct_vector M hM fuel name args g v g' as hargs hg href

#print axioms C04_compile_correct_union

/-- The union of the two domains as a predicate (what "extends `ScalarCore`" can mean for a shape discipline). -/
def VectorCoreU (M : Core.Module) : Prop := ScalarCore M ∨ VectorCore M

instance (M : Core.Module) : Decidable (VectorCoreU M) := by unfold VectorCoreU; infer_instance

theorem scalarCore_vectorCoreU {M : Core.Module} (h : ScalarCore M) : VectorCoreU M := Or.inl h
theorem vectorCore_vectorCoreU {M : Core.Module} (h : VectorCore M) : VectorCoreU M := Or.inr h

/-- `C01_Statement` with both host hypotheses. -/
def C04_StatementH (Domain : Core.Module → Prop) : Prop :=
  ∀ (M : Core.Module), Domain M →
  ∀ (fuel : Nat) (name : String) (args : List Val) (g : Globals) (v : Val) (g' : Globals) (as : List Val),
    HostVals args → HostGlobals g → HostArgsFit M name args → GlobalsFit M.globals g →
    CoreSem.invoke M fuel name args g = .done v g' as →
    ∃ fuel', VM.invoke (lowerModule M) fuel' name args g = .done v g' as

theorem C04_compile_correct_vectorU : C04_StatementH VectorCoreU :=
  fun M hM fuel name args g v g' as hv hgl hargs hg href =>
    C04_compile_correct_union M hM fuel name args g v g' as hv hgl hargs hg href

#print axioms C04_compile_correct_vectorU

/-! ## Why the host hypothesis of `C01_Statement` cannot be kept -/
namespace C04Cx
def f4 : ITy := .vec .float 4
def f2 : ITy := .vec .float 2
def fl : ITy := .sc .float
def i32 : ITy := .sc .int

/-- `function f(float4 v) -> int { if (v[0]) return 1; return 0; }` -/
def f1 : FnDef := ⟨"f", [("v", f4)], i32,
  .seq (.ite1 (.index .vec fl (.var .arg (.index 0) f4) (.litI 0)) (.ret (some (.litI 1)))) (.ret (some (.litI 0)))⟩
def M1 : Core.Module := ⟨[("g", i32)], [f1]⟩
/-- A host vector whose first component is an alias of the global `g` (allowed by `HostVals`: not an alias itself). -/
def a1 : List Val := [.list [.ptr (.glob "g") [], .int 0, .int 0, .int 0]]
def g1 : Globals := [("g", .int 0)]

theorem M1_vectorCore : VectorCore M1 := by decide
theorem a1_host : HostVals a1 := by intro a ha; simp [a1] at ha; subst ha; rfl
theorem g1_host : HostGlobals g1 := by intro n x hx; simp [g1, Map.get] at hx; obtain ⟨_, rfl⟩ := hx; rfl
theorem ref1 : CoreSem.invoke M1 20 "f" a1 g1 = .done (.int 1) g1 a1 := by rfl
theorem vm1 : VM.invoke (lowerModule M1) 20 "f" a1 g1 = .done (.int 0) g1 a1 := by
  simp only [lowerModule, M1, f1, lowerFn, lowerS, lowerE, List.map]
  rfl

/-- `function f(float4 v) -> float4 { v.wx = float2(8, 9); return v; }` -/
def f2fn : FnDef := ⟨"f", [("v", f4)], f4,
  .seq (.expr (.assign (.swizzle f2 (.var .arg (.index 0) f4) [3, 0])
          (.construct f2 (.cons (.litI 8) (.cons (.litI 9) .nil)))))
       (.ret (some (.var .arg (.index 0) f4)))⟩
def M2 : Core.Module := ⟨[], [f2fn]⟩
/-- A host "float4" with five components. -/
def a2 : List Val := [.list [.int 1, .int 2, .int 3, .int 4, .int 5]]
def r2 : Val := .list [.int 9, .int 2, .int 3, .int 8, .int 5]
def r2vm : Val := .list [.int 8, .int 2, .int 3, .int 5]

theorem M2_vectorCore : VectorCore M2 := by decide
theorem a2_host : HostVals a2 := by intro a ha; simp [a2] at ha; subst ha; rfl
theorem ref2 : CoreSem.invoke M2 20 "f" a2 [] = .done r2 [] [r2] := by rfl
theorem vm2 : VM.invoke (lowerModule M2) 20 "f" a2 [] = .done r2vm [] [r2vm] := by
  simp only [lowerModule, M2, f2fn, lowerFn, lowerS, lowerE, lowerArgs, lowerStore, List.map]
  rfl
end C04Cx

/-- A vector supplied by the host with an alias inside: the reference semantics tests the alias (true), the VM
dereferences it (0, false).  No predicate containing this three-line module satisfies `C01_Statement`. -/
theorem C01_Statement_fails_nested_alias (D : Core.Module → Prop) (hD : D C04Cx.M1) : ¬ C01_Statement D := by
  intro hst
  obtain ⟨fuel', h'⟩ := hst C04Cx.M1 hD 20 "f" C04Cx.a1 C04Cx.g1 _ _ _ C04Cx.a1_host C04Cx.g1_host C04Cx.ref1
  have h1 := C01_fuel_irrelevant _ _ (max 20 fuel') _ _ _ _ _ _ h' (Nat.le_max_right ..)
  have h2 := C01_fuel_irrelevant _ _ (max 20 fuel') _ _ _ _ _ _ C04Cx.vm1 (Nat.le_max_left ..)
  rw [h1] at h2
  simp only [Res.done.injEq, Val.int.injEq] at h2
  omega

/-- A host vector longer than its declared type under a swizzle write: the lowering builds the store shuffle from
the static size 4, the reference semantics updates the actual list. -/
theorem C01_Statement_fails_wrong_length (D : Core.Module → Prop) (hD : D C04Cx.M2) : ¬ C01_Statement D := by
  intro hst
  obtain ⟨fuel', h'⟩ := hst C04Cx.M2 hD 20 "f" C04Cx.a2 [] _ _ _ C04Cx.a2_host
    (by intro n x hx; simp at hx) C04Cx.ref2
  have h1 := C01_fuel_irrelevant _ _ (max 20 fuel') _ _ _ _ _ _ h' (Nat.le_max_right ..)
  have h2 := C01_fuel_irrelevant _ _ (max 20 fuel') _ _ _ _ _ _ C04Cx.vm2 (Nat.le_max_left ..)
  rw [h1] at h2
  simp [C04Cx.r2, C04Cx.r2vm] at h2

theorem C01_Statement_vectorCore_false : ¬ C01_Statement VectorCore :=
  C01_Statement_fails_nested_alias VectorCore C04Cx.M1_vectorCore

#print axioms C01_Statement_vectorCore_false

#print axioms C01_Statement_fails_nested_alias
#print axioms C01_Statement_fails_wrong_length

/-! ## `ScalarCore` and `VectorCore` -/
namespace C04Sc
/-- `function f() -> int { return x; }` with `x` never declared: in `ScalarCore` (forms only), not in `VectorCore`. -/
def M : Core.Module := ⟨[], [⟨"f", [], .sc .int, .ret (some (.var .local (.name "x") (.sc .int)))⟩]⟩
end C04Sc

/-- `ScalarCore` checks forms only (a `var` may carry any scalar annotation whatever the declarations say), so it is
not included in the shape discipline … -/
theorem scalarCore_not_vectorCore : ∃ M, ScalarCore M ∧ ¬ VectorCore M :=
  ⟨C04Sc.M, by decide, by decide⟩

/-- … while consistently annotated scalar programs are in both (the non-vacuity example of `C01`). -/
theorem C01Ex_vectorCore : VectorCore C01Ex.M := by decide

#print axioms scalarCore_not_vectorCore

/-! ## Non-vacuity: swizzle write, component-wise expression, matrix·vector, element write in a loop, row-wise matrix
operators, nested component writes, matrix product, a call with a vector argument and result, a global vector -/
namespace C04SimEx
def f4 : ITy := .vec .float 4
def f2 : ITy := .vec .float 2
def m44 : ITy := .mat .float 4 4
def m22 : ITy := .mat .float 2 2
def fl : ITy := .sc .float
def i32 : ITy := .sc .int
def va (i : Nat) (t : ITy) : Expr := .var .arg (.index i) t
def vl (n : String) (t : ITy) : Expr := .var .local (.name n) t

/-- ```
export function f(float4 v, float4 w, float4x4 m) -> float4 {
  v.zx = w.xy;                                  // swizzle write through the store shuffle
  float4 u = v + w * 2;                         // component-wise +, vector * scalar
  float4 t = m * u;                             // matrix · vector
  for (int i = 0; i < 4; ++i) t[i] = t[i] + i;  // element write with a dynamic index
  gacc = t;                                     // whole-value assignment to a global vector
  return t.wzyx;                                // swizzle read
}``` -/
def f : FnDef := ⟨"f", [("v", f4), ("w", f4), ("m", m44)], f4,
  .seq (.expr (.assign (.swizzle f2 (va 0 f4) [2, 0]) (.swizzle f2 (va 1 f4) [0, 1])))
  (.seq (.decl "u" f4 (some (.bin .add f4 (va 0 f4) (.bin .mul f4 (va 1 f4) (.litI 2)))))
  (.seq (.decl "t" f4 (some (.bin .mul f4 (va 2 m44) (vl "u" f4))))
  (.seq (.forL (.decl "i" i32 (some (.litI 0))) (some (.bin .lt i32 (vl "i" i32) (.litI 4)))
          (some (.affix false true (vl "i" i32)))
          (.expr (.assign (.index .vec fl (vl "t" f4) (vl "i" i32))
             (.bin .add fl (.index .vec fl (vl "t" f4) (vl "i" i32)) (vl "i" i32)))))
  (.seq (.expr (.assign (.var .global (.name "gacc") f4) (vl "t" f4)))
        (.ret (some (.swizzle f4 (vl "t" f4) [3, 2, 1, 0])))))))⟩

/-- `function scale(float4 a, float s) -> float4 { return a * s; }` -/
def scale : FnDef := ⟨"scale", [("a", f4), ("s", fl)], f4, .ret (some (.bin .mul f4 (va 0 f4) (va 1 fl)))⟩

/-- ```
export function g(float2x2 p, float2x2 q) -> float2x2 {
  float2x2 r = p + q;  r = r * 2;  r = 3 * r;   // rowsMM, rowsMS, rowsSM
  r[1][0] = 7;                                  // element of a row: vecSet, matSet, store
  r[0].yx = float2(5, 6);                       // swizzle of a row: shuffle, matSet, store
  float2x2 pr = p * q;                          // matrix product
  float4 c = scale(float4(pr[0], pr[1]), 10);   // construct from rows, call with vector argument and result
  gacc = c;
  return r;
}``` -/
def g : FnDef := ⟨"g", [("p", m22), ("q", m22)], m22,
  .seq (.decl "r" m22 (some (.bin .add m22 (va 0 m22) (va 1 m22))))
  (.seq (.expr (.assign (vl "r" m22) (.bin .mul m22 (vl "r" m22) (.litI 2))))
  (.seq (.expr (.assign (vl "r" m22) (.bin .mul m22 (.litI 3) (vl "r" m22))))
  (.seq (.expr (.assign (.index .vec fl (.index .mat f2 (vl "r" m22) (.litI 1)) (.litI 0)) (.litI 7)))
  (.seq (.expr (.assign (.swizzle f2 (.index .mat f2 (vl "r" m22) (.litI 0)) [1, 0])
          (.construct f2 (.cons (.litI 5) (.cons (.litI 6) .nil)))))
  (.seq (.decl "pr" m22 (some (.bin .mul m22 (va 0 m22) (va 1 m22))))
  (.seq (.decl "c" f4 (some (.call "scale" f4 (.cons (.construct f4 (.cons (.index .mat f2 (vl "pr" m22) (.litI 0))
            (.cons (.index .mat f2 (vl "pr" m22) (.litI 1)) .nil))) (.cons (.litI 10) .nil)))))
  (.seq (.expr (.assign (.var .global (.name "gacc") f4) (vl "c" f4)))
        (.ret (some (vl "r" m22))))))))))⟩

def M : Core.Module := ⟨[("gacc", f4)], [f, scale, g]⟩

def li (l : List Int) : Val := .list (l.map .int)
def args : List Val :=
  [li [1, 2, 3, 4], li [10, 20, 30, 40], .list [li [1, 0, 0, 0], li [0, 2, 0, 0], li [0, 0, 3, 0], li [1, 1, 1, 1]]]
def gargs : List Val := [.list [li [1, 2], li [3, 4]], .list [li [10, 20], li [30, 40]]]
def g0 : Globals := [("gacc", li [0, 0, 0, 0])]

theorem vectorCore : VectorCore M := by decide

theorem argsFit : HostArgsFit M "f" args := by
  intro fn hfn
  have : fn = f := by
    have h : CoreSem.findFn M "f" = some f := by rfl
    rw [h] at hfn; exact (Option.some.inj hfn).symm
  subst this
  exact Vec.argsFit_of_check _ _ (by rfl)

theorem gargsFit : HostArgsFit M "g" gargs := by
  intro fn hfn
  have : fn = g := by
    have h : CoreSem.findFn M "g" = some g := by rfl
    rw [h] at hfn; exact (Option.some.inj hfn).symm
  subst this
  exact Vec.argsFit_of_check _ _ (by rfl)

theorem globalsFit : GlobalsFit M.globals g0 := Vec.globalsFit_of_check _ _ (by rfl)

/-- `v.zx = w.xy` makes `v = (20,2,10,4)`; `u = (40,42,70,84)`; `t = m·u = (40,84,210,236)`; after the loop
`(40,85,212,239)`; the function returns `t.wzyx`, leaves `t` in `gacc` and the updated `v` in argument 0. -/
theorem ref_run : CoreSem.invoke M 40 "f" args g0 =
    .done (li [239, 212, 85, 40]) [("gacc", li [40, 85, 212, 239])]
      [li [20, 2, 10, 4], li [10, 20, 30, 40], .list [li [1, 0, 0, 0], li [0, 2, 0, 0], li [0, 0, 3, 0], li [1, 1, 1, 1]]] := by
  rfl

/-- Hence (by the theorem, not by running it) the VM returns the same vector, global and arguments. -/
example : ∃ fuel', VM.invoke (lowerModule M) fuel' "f" args g0 =
    .done (li [239, 212, 85, 40]) [("gacc", li [40, 85, 212, 239])]
      [li [20, 2, 10, 4], li [10, 20, 30, 40], .list [li [1, 0, 0, 0], li [0, 2, 0, 0], li [0, 0, 3, 0], li [1, 1, 1, 1]]] :=
  C04_compile_correct_vector M vectorCore 40 "f" args g0 _ _ _ argsFit globalsFit ref_run

/-- `r = 3 * ((p + q) * 2) = ((66,132),(198,264))`, then `r[1][0] = 7`, `r[0].yx = (5,6)`; `p * q = ((70,100),(150,220))`. -/
theorem ref_run_g : CoreSem.invoke M 40 "g" gargs g0 =
    .done (.list [li [6, 5], li [7, 264]]) [("gacc", li [700, 1000, 1500, 2200])] gargs := by
  rfl

example : ∃ fuel', VM.invoke (lowerModule M) fuel' "g" gargs g0 =
    .done (.list [li [6, 5], li [7, 264]]) [("gacc", li [700, 1000, 1500, 2200])] gargs :=
  C04_compile_correct_vector M vectorCore 40 "g" gargs g0 _ _ _ gargsFit globalsFit ref_run_g

/-- The predicate rejects a repeating swizzle mask as a store target, and a vector function that may fall off its end. -/
example : ¬ VectorCore ⟨[], [⟨"h", [("v", f4)], f4,
    .seq (.expr (.assign (.swizzle f2 (va 0 f4) [1, 1]) (.swizzle f2 (va 0 f4) [0, 1]))) (.ret (some (va 0 f4)))⟩]⟩ := by
  decide
example : ¬ VectorCore ⟨[], [⟨"h", [("v", f4)], f4, .ite1 (.litI 1) (.ret (some (va 0 f4)))⟩]⟩ := by decide
end C04SimEx

end Nsl
