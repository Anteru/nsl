import Nsl.Proofs.Link
import Nsl.Model.Lower
/-!
# C16 – separately compiled, imported and linked modules behave like one program

About the model `Link` of `Linker.AddModule` / `Linker.Link` / the module loader:

* `C16_link_is_union_of_closure` – when linking succeeds, the function table consists exactly of the bindings of the
  added modules and of every module *reachable* through imports (chains and diamonds of any length); function and
  global names are pairwise distinct (global table, merge order: `Link.link_spec`);
* `C16_loaded_exactly_once` – the loaded module names are exactly the reachable ones, each once;
* `C16_order_independent` – two successful links of the same set of added modules (any add order, any fuel) resolve
  every function name to the same function (pending imports are always taken from the head of the list);
* `C16_duplicate_rejected` / `C16_nothing_replaced` – a module that defines an already bound function or global name is
  rejected; a successful merge leaves every earlier binding in place;
* `C16_separate_is_whole` – the IR of a function does not depend on the module it is compiled in: lowering two modules
  separately and concatenating gives the lowering of the merged module.
-/
namespace Nsl
open Link

theorem C16_link_is_union_of_closure (loader : Loader) (fuel : Nat) (added : List LModule) (s : LState)
    (h : link loader fuel added = .ok s) :
    (∀ name f, (name, f) ∈ s.funcs ↔
      (∃ m ∈ added, (name, f) ∈ m.funcs) ∨
      (∃ n m, Reach loader (roots added) n ∧ loader n = some m ∧ (name, f) ∈ m.funcs)) ∧
    (keys s.funcs).Nodup ∧ (keys s.globals).Nodup := by
  obtain ⟨_, _, hmods, hf, _, hk, hg⟩ := link_spec h
  refine ⟨?_, hk, hg⟩
  intro name f
  rw [hf, List.mem_flatMap]
  constructor
  · rintro ⟨m, hm, hmf⟩
    rcases (hmods m).1 hm with h1 | ⟨n, hr, hl⟩
    · exact Or.inl ⟨m, h1, hmf⟩
    · exact Or.inr ⟨n, m, hr, hl, hmf⟩
  · rintro (⟨m, hm, hmf⟩ | ⟨n, m, hr, hl, hmf⟩)
    · exact ⟨m, (hmods m).2 (Or.inl hm), hmf⟩
    · exact ⟨m, (hmods m).2 (Or.inr ⟨n, hr, hl⟩), hmf⟩

#print axioms C16_link_is_union_of_closure

theorem C16_loaded_exactly_once (loader : Loader) (fuel : Nat) (added : List LModule) (s : LState)
    (h : link loader fuel added = .ok s) :
    s.loaded.Nodup ∧ ∀ n, n ∈ s.loaded ↔ Reach loader (roots added) n := by
  obtain ⟨hl, hn, _⟩ := link_spec h
  exact ⟨hn, hl⟩

#print axioms C16_loaded_exactly_once

theorem findFn_iff {s : LState} (hk : (keys s.funcs).Nodup) (name : String) (f : Func) :
    s.findFn name = some f ↔ (name, f) ∈ s.funcs := by
  unfold LState.findFn
  generalize s.funcs = tbl at hk
  induction tbl with
  | nil => simp
  | cons p rest ih =>
    obtain ⟨k, v⟩ := p
    obtain ⟨hk1, hk2⟩ := List.nodup_cons.1 hk
    rw [List.mem_cons, Prod.mk.injEq]
    by_cases hkn : k = name
    · subst hkn
      have : (k, f) ∉ rest := fun h => hk1 (List.mem_map.2 ⟨_, h, rfl⟩)
      simp [this, eq_comm]
    · rw [List.find?_cons, beq_false_of_ne hkn, ih hk2]
      simp [Ne.symm hkn]

theorem link_findFn_mono {loader : Loader} {fa fb : Nat} {a b : List LModule} {sa sb : LState}
    (hab : ∀ m ∈ a, m ∈ b) (ha : link loader fa a = .ok sa) (hb : link loader fb b = .ok sb)
    (name : String) (f : Func) : sa.findFn name = some f → sb.findFn name = some f := by
  obtain ⟨ua, ka, _⟩ := C16_link_is_union_of_closure loader fa a sa ha
  obtain ⟨ub, kb, _⟩ := C16_link_is_union_of_closure loader fb b sb hb
  have hroots : ∀ n ∈ roots a, n ∈ roots b := fun n hn =>
    let ⟨m, hm, hi⟩ := List.mem_flatMap.1 hn
    List.mem_flatMap.2 ⟨m, hab m hm, hi⟩
  rw [findFn_iff ka, findFn_iff kb, ua, ub]
  rintro (⟨m, hm, hf⟩ | ⟨n, m, hr, hl, hf⟩)
  · exact Or.inl ⟨m, hab m hm, hf⟩
  · exact Or.inr ⟨n, m, hr.mono hroots, hl, hf⟩

theorem C16_order_independent (loader : Loader) (f1 f2 : Nat) (added1 added2 : List LModule) (s1 s2 : LState)
    (hsame : ∀ m, m ∈ added1 ↔ m ∈ added2)
    (h1 : link loader f1 added1 = .ok s1) (h2 : link loader f2 added2 = .ok s2) :
    ∀ name, s1.findFn name = s2.findFn name := by
  have h12 := link_findFn_mono (fun m => (hsame m).1) h1 h2
  have h21 := link_findFn_mono (fun m => (hsame m).2) h2 h1
  intro name
  cases hf1 : s1.findFn name with
  | some f => exact (h12 name f hf1).symm
  | none =>
    cases hf2 : s2.findFn name with
    | none => rfl
    | some f => exact absurd (h21 name f hf2) (by rw [hf1]; nofun)

#print axioms C16_order_independent

theorem C16_duplicate_rejected (s : LState) (m : LModule) (k : String)
    (h : (k ∈ keys m.funcs ∧ k ∈ keys s.funcs) ∨ (k ∈ keys m.globals ∧ k ∈ keys s.globals)) :
    ∃ e, addModule s m = .error e := by
  simp only [addModule, bind, Except.bind]
  rcases h with ⟨h1, h2⟩ | ⟨h1, h2⟩
  · obtain ⟨e, he⟩ := addAll_dup LErr.dupFunction m.funcs s.funcs k h1 h2
    exact ⟨e, by rw [he]⟩
  · cases addAll LErr.dupFunction s.funcs m.funcs with
    | error e => exact ⟨e, rfl⟩
    | ok fs =>
      obtain ⟨e, he⟩ := addAll_dup LErr.dupGlobal m.globals s.globals k h1 h2
      exact ⟨e, by rw [he]⟩

#print axioms C16_duplicate_rejected

theorem C16_nothing_replaced (s s' : LState) (m : LModule) (h : addModule s m = .ok s') :
    s'.funcs = s.funcs ++ m.funcs ∧ s'.globals = s.globals ++ m.globals := by
  obtain ⟨e1, e2, _⟩ := addModule_ok h
  exact ⟨e1, e2⟩

#print axioms C16_nothing_replaced

theorem C16_separate_is_whole (g1 g2 : List (String × ITy)) (f1 f2 : List Core.FnDef) :
    (Lower.lowerModule ⟨g1 ++ g2, f1 ++ f2⟩).funcs =
      (Lower.lowerModule ⟨g1, f1⟩).funcs ++ (Lower.lowerModule ⟨g2, f2⟩).funcs ∧
    (Lower.lowerModule ⟨g1 ++ g2, f1 ++ f2⟩).globals =
      (Lower.lowerModule ⟨g1, f1⟩).globals ++ (Lower.lowerModule ⟨g2, f2⟩).globals := by
  simp [Lower.lowerModule]

#print axioms C16_separate_is_whole

/-! ## Non-vacuity: a diamond a → {b, c} → d links, d is loaded once -/
namespace C16Ex
def fn (n : String) : Func := ⟨n, [], .void, [.ret none]⟩
def mk (fs : List String) (imps : List String) : LModule := ⟨fs.map (fun n => (n, fn n)), [], imps⟩
def loader : Loader
  | "b" => some (mk ["fb"] ["d"])
  | "c" => some (mk ["fc"] ["d"])
  | "d" => some (mk ["fd"] [])
  | _ => none
def a : LModule := mk ["fa"] ["b", "c"]
example : (link loader 10 [a]).toOption.map (fun s => (keys s.funcs, s.loaded)) =
    some (["fa", "fb", "fc", "fd"], ["d", "c", "b"]) := by decide +kernel
end C16Ex

end Nsl
