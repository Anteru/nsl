/-
  Property C11 — validation of `break` / `continue`.

  "A program is rejected if any break or continue statement is not lexically inside the body of a
  for, while or do loop of the same function, however deeply the statement is nested in blocks and
  if/else branches; a program whose break/continue statements are all inside loops is not rejected
  for that reason.  An accepted break or continue always refers to the innermost enclosing loop."

  `validate` / `validateFn` / `validateModule` model `ValidateFlowStatementVisitor`; `targets`
  models the loop-stack bookkeeping of `LowerToIR`; `Spec.occs`, `Spec.AllInLoop`,
  `Spec.occurrences` are the declarative reading (cross-checked against tree paths below).
  All theorems hold for statement trees of any depth.
-/
import Nsl.Proofs.Flow

namespace Nsl.Flow.C11

open Nsl.Flow Nsl.Flow.Spec

/-! ### 1. The validator accepts exactly the bodies whose break/continue are all inside loops -/

/-- Depth-generalised: started inside `d` loops the visitor rejects only if `d = 0` and some
occurrence has no enclosing loop within `s`. -/
theorem validate_depth_iff (d : Nat) (s : S) :
    validate d s = true ↔ (d > 0 ∨ Spec.AllInLoop s) := by
  induction s using S.ind' generalizing d with
  | other => exact ⟨fun _ => .inr nofun, fun _ => rfl⟩
  | brk => simp [validate, AllInLoop, occs, Nat.pos_iff_ne_zero]
  | cont => simp [validate, AllInLoop, occs, Nat.pos_iff_ne_zero]
  | seq a b iha ihb => rw [validate, Bool.and_eq_true, iha, ihb, allInLoop_seq, or_and_left]
  | ite1 t iht => exact iht d
  | ite2 t e h => exact h d
  | loop k id b ih =>
    -- inside the loop the depth is positive, and a loop has no exposed occurrence
    rw [validate, ih]
    exact ⟨fun _ => .inr (allInLoop_loop k id b), fun _ => .inl (Nat.succ_pos d)⟩
#print axioms validate_depth_iff

theorem validate_iff (s : S) : validateFn s = true ↔ Spec.AllInLoop s :=
  (validate_depth_iff 0 s).trans (or_iff_right (Nat.lt_irrefl 0))
#print axioms validate_iff

/-- Rejection form of the first sentence: a body is rejected iff SOME break/continue occurrence
has no enclosing loop. -/
theorem rejected_iff (s : S) : validateFn s = false ↔ ∃ o ∈ Spec.occs s, o.2 = [] := by
  rw [← Bool.not_eq_true, validate_iff]
  unfold AllInLoop
  constructor
  · intro h; exact Classical.byContradiction fun hn => h fun o ho he => hn ⟨o, ho, he⟩
  · rintro ⟨o, ho, he⟩ h; exact h o ho he
#print axioms rejected_iff

/-! The specification is grounded in tree paths: `occs` lists exactly the break/continue leaves
(at any depth), each with the loops whose bodies are entered on the way down; so `AllInLoop` says
that every path to a break/continue passes through at least one loop body. -/

theorem occs_iff_paths (s : S) (b : Bool) (ls : List Nat) :
    (b, ls) ∈ Spec.occs s ↔
      ∃ p, Spec.sub s p = some (if b then S.brk else S.cont) ∧ Spec.enclosing s p = ls :=
  ⟨path_of_mem_occs s (b, ls), fun ⟨p, h1, h2⟩ => h2 ▸ mem_occs_of_path s p b h1⟩
#print axioms occs_iff_paths

theorem allInLoop_iff_paths (s : S) :
    Spec.AllInLoop s ↔
      ∀ p, (Spec.sub s p = some .brk ∨ Spec.sub s p = some .cont) → Spec.enclosing s p ≠ [] := by
  rw [allInLoop_iff_leaf_paths]
  constructor
  · rintro h p (hp | hp)
    · exact h p true hp
    · exact h p false hp
  · intro h p b hp
    cases b
    · exact h p (Or.inr hp)
    · exact h p (Or.inl hp)
#print axioms allInLoop_iff_paths

/-! ### 2. Modules: every function is judged on its own -/

theorem validate_module_iff (fs : List S) :
    validateModule fs = true ↔ ∀ f ∈ fs, Spec.AllInLoop f := by
  simp [validateModule, validate_iff]
#print axioms validate_module_iff

/-- A loop in one function does not license a break/continue in another: whatever the other
functions look like, a function whose body is rejected on its own makes the module rejected. -/
theorem validate_module_no_cross (pre post : List S) (f : S) (h : validateFn f = false) :
    validateModule (pre ++ f :: post) = false := by
  simp [validateModule, h]
#print axioms validate_module_no_cross

/-! ### 3. An accepted program never indexes an empty loop stack -/

/-- Under any loop stack: `self.__loops[-1]` raises exactly when the validator started at the
depth of that stack rejects. -/
theorem targets_isSome_iff (stk : List Nat) (s : S) :
    (targets stk s).isSome = validate stk.length s := by
  induction s using S.ind' generalizing stk with
  | other => rfl
  | brk => cases stk <;> rfl
  | cont => cases stk <;> rfl
  | seq a b iha ihb =>
    rw [targets, validate, ← iha stk, ← ihb stk]
    cases targets stk a <;> cases targets stk b <;> rfl
  | ite1 t iht => exact iht stk
  | ite2 t e h => exact h stk
  | loop k id b ih => exact ih (id :: stk)
#print axioms targets_isSome_iff

theorem targets_safe (s : S) (h : validateFn s = true) : (targets [] s).isSome := by
  rw [targets_isSome_iff]; exact h
#print axioms targets_safe

theorem targets_none_rejected (s : S) (h : targets [] s = none) : validateFn s = false := by
  have := targets_isSome_iff [] s
  rw [h] at this
  exact this.symm
#print axioms targets_none_rejected

/-- The functional `targets` agrees with the walk that threads the stack as mutable state
(`BeginLoop` push / `EndLoop` pop); in particular the stack is restored after every statement. -/
theorem targetsSt_agrees (s : S) (stk : List Nat) :
    targetsSt s stk = (targets stk s).map fun xs => (xs, stk) :=
  targetsSt_eq s stk
#print axioms targetsSt_agrees

/-! ### 4. Every accepted break/continue is registered with its innermost enclosing loop -/

theorem targets_innermost (s : S) (h : validateFn s = true) :
    targets [] s = some (Spec.occurrences s) := by
  rw [targets_eq_resolve s [] h, resolve_nil]
#print axioms targets_innermost

/-- `Spec.occurrences` drops no occurrence of an accepted body: it is, entry by entry in source
order, the last (= nearest) of the enclosing loops of each occurrence. -/
theorem occurrences_complete (s : S) (h : validateFn s = true) :
    Spec.occurrences s = (Spec.occs s).map fun o => (o.1, o.2.getLastD 0) :=
  occurrences_eq_map s ((validate_iff s).1 h)
#print axioms occurrences_complete

theorem targets_length (s : S) (h : validateFn s = true) :
    (targets [] s).map List.length = some (Spec.occs s).length := by
  rw [targets_innermost s h, occurrences_complete s h]; simp
#print axioms targets_length

theorem validate_seq (d : Nat) (a b : S) :
    validate d (.seq a b) = (validate d a && validate d b) := rfl
#print axioms validate_seq

theorem validate_ite_none (d : Nat) (t : S) : validate d (.ite t none) = validate d t := rfl
#print axioms validate_ite_none

theorem validate_ite_some (d : Nat) (t e : S) :
    validate d (.ite t (some e)) = (validate d t && validate d e) := rfl
#print axioms validate_ite_some

theorem validate_loop (d : Nat) (k : LoopKind) (id : Nat) (b : S) :
    validate d (.loop k id b) = validate (d + 1) b := rfl
#print axioms validate_loop

/-- Wrapping an offending statement in any number of block / if / if-else layers keeps it
rejected. -/
theorem wrap_rejected {s w : S} (hw : Spec.Wraps s w) (d : Nat) (h : validate d s = false) :
    validate d w = false := by
  induction hw with
  | refl => exact h
  | seqL b _ ih => simp [validate, ih]
  | seqR a _ ih => simp [validate, ih]
  | thenB e _ ih => cases e <;> simp [validate, ih]
  | elseB t _ ih => simp [validate, ih]
#print axioms wrap_rejected

theorem wrap_brk_rejected {w : S} (hw : Spec.Wraps .brk w) : validateFn w = false :=
  wrap_rejected hw 0 rfl
#print axioms wrap_brk_rejected

theorem wrap_cont_rejected {w : S} (hw : Spec.Wraps .cont w) : validateFn w = false :=
  wrap_rejected hw 0 rfl
#print axioms wrap_cont_rejected

theorem loop_accepted (k : LoopKind) (id : Nat) (s : S) : validateFn (.loop k id s) = true :=
  (validate_depth_iff 1 s).2 (.inl Nat.one_pos)
#print axioms loop_accepted

/-- For example, a `break` directly in a loop body is registered with that loop. -/
theorem loop_brk_target (k : LoopKind) (id : Nat) :
    targets [] (.loop k id .brk) = some [(true, id)] := rfl
#print axioms loop_brk_target

/-! ### 6. Non-vacuity -/

section Examples

/-- `for { { if (..) { x; break; } else continue; } while { if (..) break; } continue; }` -/
def ex1 : S :=
  .loop .forL 0
    (.seq (.seq (.ite (.seq .other .brk) (some .cont)) .other)
      (.seq (.loop .whileL 1 (.ite .brk none)) .cont))

example : validateFn ex1 = true := by decide +kernel
example : Spec.AllInLoop ex1 := by decide +kernel
example : targets [] ex1 = some [(true, 0), (false, 0), (true, 1), (false, 0)] := by decide +kernel
example : Spec.occurrences ex1 = [(true, 0), (false, 0), (true, 1), (false, 0)] := by decide +kernel
example : Spec.occs ex1 = [(true, [0]), (false, [0]), (true, [0, 1]), (false, [0])] := by decide +kernel
example : (targets [] ex1).isSome := targets_safe ex1 (by decide +kernel)

/-- three nested loops, break under if inside block in the innermost: refers to loop 2 -/
def ex2 : S :=
  .loop .doL 0 (.loop .forL 1 (.seq .other (.loop .whileL 2 (.seq (.ite (.seq .brk .other) none) .other))))

example : validateFn ex2 = true := by decide +kernel
example : targets [] ex2 = some [(true, 2)] := by decide +kernel

/-- `while { } break;` at top level: the break after the loop is rejected -/
def ex3 : S := .seq (.loop .whileL 0 .other) .brk

example : validateFn ex3 = false := by decide +kernel
example : ¬ Spec.AllInLoop ex3 := by decide +kernel
example : targets [] ex3 = none := by decide +kernel
example : validateFn ex3 = false := targets_none_rejected ex3 (by decide +kernel)

/-- continue deep under blocks and if/else but in no loop -/
def ex4 : S := .seq .other (.ite .other (some (.seq (.ite (.seq .other .cont) none) .other)))

example : validateFn ex4 = false := by decide +kernel
example : Spec.Wraps .cont ex4 :=
  .seqR _ (.elseB _ (.seqL _ (.thenB _ (.seqR _ .refl))))
example : validateFn ex4 = false :=
  wrap_cont_rejected (.seqR _ (.elseB _ (.seqL _ (.thenB _ (.seqR _ .refl)))))
example : validateFn (.loop .doL 7 ex4) = true := by decide +kernel
example : targets [] (.loop .doL 7 ex4) = some [(false, 7)] := by decide +kernel

/-- two functions: the loop of the first does not license the break of the second -/
example : validateModule [ex1, .ite .brk none] = false := by decide +kernel
example : validateModule [ex1, .ite .brk none] = false :=
  validate_module_no_cross [ex1] [] (.ite .brk none) (by decide +kernel)
example : validateModule [ex1, ex2, .other] = true := by decide +kernel
example : validateFn (.ite .brk none) = false ∧ validateFn (.seq ex1 (.loop .forL 9 (.ite .brk none))) = true := by
  decide +kernel

/-- paths: the break of `ex2` sits at this path and passes through loops 0, 1, 2 -/
example : Spec.enclosing ex2 [.body, .body, .seqR, .body, .seqL, .thenB, .seqL] = [0, 1, 2] := by decide +kernel

/-- the prefix encoding (loop ids in pre-order); `String.splitOn` / `++` do not reduce in the
kernel, so the string-level `run` is checked by `#guard` in `Nsl/Proofs/Flow.lean` -/
example : (parseToks ["f", "s", "i", "s", "b", "o", "w", "e", "c", "b"]).map
      (fun s => (validateFn s, targets [] s)) =
    some (true, some [(true, 0), (false, 1), (true, 1)]) := by
  decide +kernel
example : (parseToks ["f", "s", "i", "s", "b", "o", "w", "e", "c", "b"]).map Spec.occs =
    some [(true, [0]), (false, [0, 1]), (true, [0, 1])] := by
  decide +kernel
example : (parseToks ["s", "d", "o", "b"]).map validateFn = some false := by decide +kernel
example : parseToks ["s", "o"] = none := by decide +kernel
example : parseToks ["o", "o"] = none := by decide +kernel

end Examples

end Nsl.Flow.C11
