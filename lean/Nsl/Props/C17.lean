import Nsl.Props.C15
/-!
# C17 – a stored IR module reloads to the same program   (partial by nature)

`pickle` is not modelled: no executable model exhibits Python's serialisation of a cyclic object graph, recursion limits
or class paths.  What is proved is the fact that turns the *checked* equality of the observations of the stored and the
reloaded module into equality of behaviour on EVERY input:

* `C17_behaviour_depends_on_lookup_only` – two programs that resolve every function name to the same function
  (code, parameters) produce the same result for every invocation with every fuel: the VM reads the program through
  `Program.find` only — object identity, sharing of constants, the order of the function table are invisible;
* `C17_histories_agree` – hence every host history (C15) over the two programs has the same outputs;
* `C17_obs_determines_program` – `Obs`, what the check compares between the storing and the loading process,
  determines the program itself, hence `find`.
-/
namespace Nsl
open VM

theorem callD_congr_of (P1 P2 : Program) (h : ∀ n, P1.find n = P2.find n) (D : Nat)
    (ih : ∀ (fn : Func) (pc : Nat) (fr : Frame) (g : Globals), run P1 D fn pc fr g = run P2 D fn pc fr g) :
    callD P1 D = callD P2 D := by
  funext name args g
  cases hf : P2.find name with
  | none => rw [callD_none hf, callD_none (by rw [h, hf])]
  | some callee => rw [callD_some hf, callD_some (by rw [h, hf])]; exact ih callee 0 _ g

theorem run_congr (P1 P2 : Program) (h : ∀ n, P1.find n = P2.find n) :
    ∀ (fuel : Nat) (fn : Func) (pc : Nat) (fr : Frame) (g : Globals),
      run P1 fuel fn pc fr g = run P2 fuel fn pc fr g := by
  intro fuel
  induction fuel with
  | zero => intro fn pc fr g; rw [run_zero, run_zero]
  | succ fuel ih =>
    intro fn pc fr g
    rw [run_succ, run_succ, callD_congr_of P1 P2 h fuel ih]
    cases stepI (callD P2 fuel) fn.code pc fr g with
    | next pc' fr' g' => exact ih fn pc' fr' g'
    | ret v g' as => rfl
    | fail e => rfl

theorem C17_behaviour_depends_on_lookup_only (P1 P2 : Program) (h : ∀ n, P1.find n = P2.find n)
    (fuel : Nat) (name : String) (args : List Val) (g : Globals) :
    VM.invoke P1 fuel name args g = VM.invoke P2 fuel name args g := by
  rw [invoke_eq_callD, invoke_eq_callD, callD_congr_of P1 P2 h fuel (run_congr P1 P2 h fuel)]

#print axioms C17_behaviour_depends_on_lookup_only

/-- The observation of a module compared by the check: every function with its signature and code, every global. -/
def Obs (P : Program) : List (String × List (String × ITy) × ITy × List Instr) × List (String × ITy) :=
  (P.funcs.map (fun f => (f.name, f.params, f.ret, f.code)), P.globals)

theorem C17_obs_determines_program (P1 P2 : Program) (h : Obs P1 = Obs P2) : P1 = P2 := by
  obtain ⟨f1, g1⟩ := P1
  obtain ⟨f2, g2⟩ := P2
  simp only [Obs, Prod.mk.injEq] at h
  obtain ⟨hf, hg⟩ := h
  subst hg
  congr
  induction f1 generalizing f2 with
  | nil => cases f2 <;> simp_all
  | cons a r ih =>
    cases f2 with
    | nil => simp at hf
    | cons b s =>
      simp only [List.map_cons, List.cons.injEq, Prod.mk.injEq] at hf
      obtain ⟨⟨h1, h2, h3, h4⟩, hr⟩ := hf
      obtain ⟨n1, p1, r1, c1⟩ := a
      obtain ⟨n2, p2, r2, c2⟩ := b
      simp only at h1 h2 h3 h4
      subst h1 h2 h3 h4
      rw [ih s hr]

#print axioms C17_obs_determines_program

theorem C17_histories_agree (P1 P2 : Program) (h : ∀ n, P1.find n = P2.find n) (s : HostState) (ops : List HostOp)
    (outs : List HostOut) (s' : HostState) (hr : HostRun (InvVM P1) s ops outs s') : HostRun (InvVM P2) s ops outs s' := by
  induction hr with
  | nil s => exact .nil s
  | cons hstep _ ih =>
    refine .cons ?_ ih
    cases hstep with
    | set i n v => exact .set _ i n v
    | get i n => exact .get _ i n
    | invoke i fn args v g' as hinv =>
      obtain ⟨fuel, hf⟩ := hinv
      exact .invoke _ i fn args v g' as ⟨fuel, by rw [← C17_behaviour_depends_on_lookup_only P1 P2 h]; exact hf⟩

#print axioms C17_histories_agree

/-- Non-vacuity: the same two functions in a different table order behave identically. -/
def exFn (n : String) : Func := ⟨n, [], .void, [.ret none]⟩

example : ∀ fuel args g, VM.invoke ⟨[exFn "a", exFn "b"], []⟩ fuel "a" args g =
    VM.invoke ⟨[exFn "b", exFn "a"], []⟩ fuel "a" args g := by
  intro fuel args g
  apply C17_behaviour_depends_on_lookup_only
  intro n
  simp only [Program.find, List.find?_cons, exFn]
  cases ha : ("a" == n) <;> cases hb : ("b" == n) <;> simp_all

end Nsl
