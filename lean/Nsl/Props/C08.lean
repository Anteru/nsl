import Nsl.Model.Prec
import Nsl.Proofs.Prec

/-!
# Property C08 — operator precedence and associativity of binary-operator chains

"An expression `a op1 b op2 c` without parentheses is evaluated with the grouping given by the
language's precedence levels (from loosest: `||`, `&&`, `== !=`, `< <= > >=`, `+ -`, `* / %`),
operators of the same level group left to right, …, and parentheses override the default grouping."

`parse lvl a rest` is the yacc/PLY shift/reduce loop on the chain `a o1 x1 o2 x2 …` (reduce iff the
operator on the stack has level `≥` the lookahead's, all levels `left`).  The theorems hold for
chains of any length and for ANY level function `lvl : Op → Nat`.
-/

namespace Nsl.Prec

variable {Op α : Type}

/-- 1. The parse tree contains exactly the operands and operators of the chain, in order. -/
theorem parse_yield (lvl : Op → Nat) (a : α) (rest : List (Op × α)) :
    yield (parse lvl a rest) = (a, rest) := by
  unfold parse
  rw [yield_parseLoop]
  simp [reduceAll, yield]
#print axioms parse_yield

/-- 2. The parse tree is grouped according to the precedence levels, left-associatively. -/
theorem parse_wg (lvl : Op → Nat) (a : α) (rest : List (Op × α)) :
    WellGrouped lvl (parse lvl a rest) :=
  wg_parseLoop lvl rest [] a trivial
#print axioms parse_wg

/-- 3. Every well-grouped tree is what the parser produces from its own yield. -/
theorem parse_roundtrip (lvl : Op → Nat) (t : Tree Op α) (h : WellGrouped lvl t) :
    parse lvl (yield t).1 (yield t).2 = t := by
  have := parseLoop_yield lvl t [] [] h trivial trivial
  simpa [parse, parseLoop, reduceAll] using this
#print axioms parse_roundtrip

/-- 4. A chain has at most one well-grouped tree (so 1 + 2 determine `parse` completely). -/
theorem wg_unique (lvl : Op → Nat) (t u : Tree Op α)
    (ht : WellGrouped lvl t) (hu : WellGrouped lvl u) (h : yield t = yield u) : t = u := by
  rw [← parse_roundtrip lvl t ht, ← parse_roundtrip lvl u hu, h]
#print axioms wg_unique

/-- 5a. `a o1 b o2 c` with `o1` binding at least as tightly as `o2` (higher level, or same level:
left to right) is `(a o1 b) o2 c`. -/
theorem pair_left (lvl : Op → Nat) (a b c : α) (o1 o2 : Op) (h : lvl o1 ≥ lvl o2) :
    parse lvl a [(o1, b), (o2, c)] = .node o2 (.node o1 (.leaf a) (.leaf b)) (.leaf c) := by
  simp [parse, parseLoop, reduceWhile, reduceAll, h]
#print axioms pair_left

/-- 5b. `a o1 b o2 c` with `o2` binding strictly tighter than `o1` is `a o1 (b o2 c)`. -/
theorem pair_right (lvl : Op → Nat) (a b c : α) (o1 o2 : Op) (h : lvl o1 < lvl o2) :
    parse lvl a [(o1, b), (o2, c)] = .node o1 (.leaf a) (.node o2 (.leaf b) (.leaf c)) := by
  have h' : ¬ lvl o2 ≤ lvl o1 := by omega
  simp [parse, parseLoop, reduceWhile, reduceAll, h']
#print axioms pair_right

/-! ### Parentheses override the default grouping

`Chain Op α` is a chain whose operands are atoms or parenthesised sub-chains; `parseFull` parses
every group on its own and then treats it as an operand of the enclosing chain; `unparse` prints a
tree and wraps a child in a group exactly when leaving it bare would violate `WellGrouped`
(left child: level `<` the parent's, right child: level `≤` the parent's). -/

/-- A parenthesised child is parsed on its own and, by the round trip, comes back as that child. -/
theorem yield_witness (lvl : Op → Nat) (e : Tree Op α) :
    yield (witness lvl e) = chainOperands lvl (unparse lvl e) := by
  induction e with
  | leaf a => simp [witness, yield, unparse, chainOperands, parseOperand]
  | node op l r ihl ihr =>
    have hgroup : ∀ t : Tree Op α, yield (witness lvl t) = chainOperands lvl (unparse lvl t) →
        parseOperand lvl (.group (unparse lvl t)) = t := by
      intro t ht
      simp only [parseOperand]
      rw [← ht, parse_roundtrip lvl _ (wg_witness lvl t), join_witness]
    simp only [witness, unparse, chainOperands_append, yield]
    split <;> split <;>
      simp [yield, chainOperands, hgroup l ihl, hgroup r ihr, ← ihl, ← ihr]

/-- 6. EVERY binary expression tree (every grouping whatsoever) can be written down with
parentheses and is recovered by the parser. -/
theorem parseFull_unparse (lvl : Op → Nat) (e : Tree Op α) :
    parseFull lvl (unparse lvl e) = e := by
  unfold parseFull
  rw [← yield_witness, parse_roundtrip lvl _ (wg_witness lvl e), join_witness]
#print axioms parseFull_unparse

/-- 7. On a chain without parentheses `parseFull` is `parse`. -/
theorem parseFull_ofList (lvl : Op → Nat) (a : α) (rest : List (Op × α)) :
    parseFull lvl (Chain.ofList a rest) = parse lvl a rest := by
  unfold parseFull parse
  rw [chainOperands_ofList]
  have := parseLoop_map (Tree.leaf (Op := Op)) lvl rest [] (.leaf a)
  simp only [mapStk, List.map_nil, mapT] at this
  rw [this, join_mapT_leaf]
#print axioms parseFull_ofList

/-- 8. A well-grouped tree is printed without any parentheses: as its bare yield. -/
theorem unparse_of_wg (lvl : Op → Nat) (t : Tree Op α) (h : WellGrouped lvl t) :
    unparse lvl t = Chain.ofList (yield t).1 (yield t).2 := by
  induction t with
  | leaf a => rfl
  | node op l r ihl ihr =>
    obtain ⟨hl, hr, hwl, hwr⟩ := h
    simp only [unparse, needsParenL_eq_false_iff.2 hl, needsParenR_eq_false_iff.2 hr, yield,
      ihl hwl, ihr hwr]
    exact ofList_append _ _ _ _ _
#print axioms unparse_of_wg

/-- 9. A parenthesised group behaves like an atom: `( c ) o b` is `node o ⟦c⟧ b` and
`a o ( c )` is `node o a ⟦c⟧`, whatever operators occur inside `c`. -/
theorem group_left (lvl : Op → Nat) (c : Chain Op α) (o : Op) (b : α) :
    parseFull lvl (.cons (.group c) o (.one (.atom b)))
      = .node o (parseFull lvl c) (.leaf b) := by
  simp [parseFull, chainOperands, parseOperand, parse, parseLoop, reduceWhile, reduceAll, join]
#print axioms group_left

theorem group_right (lvl : Op → Nat) (a : α) (o : Op) (c : Chain Op α) :
    parseFull lvl (.cons (.atom a) o (.one (.group c)))
      = .node o (.leaf a) (parseFull lvl c) := by
  simp [parseFull, chainOperands, parseOperand, parse, parseLoop, reduceWhile, reduceAll, join]
#print axioms group_right

/-! ### 10. Non-vacuity with the nsl level table -/

section Examples

/-- The 13 binary operators of nsl's `binary_expression` productions. -/
inductive BinOp
  | lor | land | eq | ne | lt | le | gt | ge | plus | minus | times | divide | mod
  deriving DecidableEq, Repr

open BinOp

/-- nsl's precedence levels, loosest first (`||`=1 … `* / %`=6). -/
def nslLvl : BinOp → Nat
  | lor => 1
  | land => 2
  | eq | ne => 3
  | lt | le | gt | ge => 4
  | plus | minus => 5
  | times | divide | mod => 6

local notation "L" => (Tree.leaf : String → Tree BinOp String)
local notation "N" => (Tree.node : BinOp → Tree BinOp String → Tree BinOp String → Tree BinOp String)

example : parse nslLvl "a" [(minus, "b"), (minus, "c")]
    = N minus (N minus (L "a") (L "b")) (L "c") := by decide +kernel
-- same level, different operators
example : parse nslLvl "a" [(minus, "b"), (plus, "c")]
    = N plus (N minus (L "a") (L "b")) (L "c") := by decide +kernel
example : parse nslLvl "a" [(times, "b"), (plus, "c")]
    = N plus (N times (L "a") (L "b")) (L "c") := by decide +kernel
example : parse nslLvl "a" [(plus, "b"), (times, "c")]
    = N plus (L "a") (N times (L "b") (L "c")) := by decide +kernel
example : parse nslLvl "a" [(lt, "b"), (eq, "c"), (land, "d"), (lor, "e")]
    = N lor (N land (N eq (N lt (L "a") (L "b")) (L "c")) (L "d")) (L "e") := by decide +kernel
-- nests entirely to the right
example : parse nslLvl "a" [(lor, "b"), (land, "c"), (eq, "d"), (lt, "e"), (plus, "f"), (times, "g")]
    = N lor (L "a") (N land (L "b") (N eq (L "c") (N lt (L "d")
        (N plus (L "e") (N times (L "f") (L "g")))))) := by decide +kernel
example : parse nslLvl "a" [(plus, "b"), (times, "c"), (minus, "d"), (divide, "e"), (lt, "f")]
    = N lt (N minus (N plus (L "a") (N times (L "b") (L "c"))) (N divide (L "d") (L "e"))) (L "f") := by
  decide +kernel

-- the hypotheses of `pair_left` / `pair_right` / `wg_unique` / `parse_roundtrip` are satisfiable
example : nslLvl minus ≥ nslLvl plus := by decide +kernel
example : nslLvl plus < nslLvl times := by decide +kernel
example : WellGrouped nslLvl (N plus (N minus (L "a") (L "b")) (N times (L "c") (L "d"))) := by
  decide +kernel
-- … and `WellGrouped` is not trivially true: `a - (b - c)` and `(a + b) * c` are not default groupings
example : ¬ WellGrouped nslLvl (N minus (L "a") (N minus (L "b") (L "c"))) := by decide +kernel
example : ¬ WellGrouped nslLvl (N times (N plus (L "a") (L "b")) (L "c")) := by decide +kernel
-- two different trees with the same yield, only one of which is well grouped
example : yield (N minus (L "a") (N minus (L "b") (L "c")))
    = yield (N minus (N minus (L "a") (L "b")) (L "c")) := by decide +kernel

local notation "A" => (Operand.atom : String → Operand BinOp String)

-- the printer inserts the group, the parser recovers the right-nested tree
example : unparse nslLvl (N minus (L "a") (N minus (L "b") (L "c")))
    = .cons (A "a") minus (.one (.group (.cons (A "b") minus (.one (A "c"))))) := by rfl
example : parseFull nslLvl (.cons (A "a") minus (.one (.group (.cons (A "b") minus (.one (A "c"))))))
    = N minus (L "a") (N minus (L "b") (L "c")) := by decide +kernel
example : unparse nslLvl (N times (N plus (L "a") (L "b")) (L "c"))
    = .cons (.group (.cons (A "a") plus (.one (A "b")))) times (.one (A "c")) := by rfl
example : parseFull nslLvl (.cons (.group (.cons (A "a") plus (.one (A "b")))) times (.one (A "c")))
    = N times (N plus (L "a") (L "b")) (L "c") := by decide +kernel
-- `(a - b) - c` needs no parentheses
example : unparse nslLvl (N minus (N minus (L "a") (L "b")) (L "c"))
    = .cons (A "a") minus (.cons (A "b") minus (.one (A "c"))) := by rfl
example : unparse nslLvl (N times (L "a") (N land (N lor (L "b") (L "c")) (L "d")))
    = .cons (A "a") times (.one (.group
        (.cons (.group (.cons (A "b") lor (.one (A "c")))) land (.one (A "d"))))) := by rfl
example : parseFull nslLvl (.cons (A "a") times (.one (.group
        (.cons (.group (.cons (A "b") lor (.one (A "c")))) land (.one (A "d"))))))
    = N times (L "a") (N land (N lor (L "b") (L "c")) (L "d")) := by decide +kernel
-- redundant parentheses are harmless: `(a * b) + c` parses like `a * b + c`
example : parseFull nslLvl (.cons (.group (.cons (A "a") times (.one (A "b")))) plus (.one (A "c")))
    = parse nslLvl "a" [(times, "b"), (plus, "c")] := by decide +kernel

end Examples

end Nsl.Prec
