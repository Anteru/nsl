import Nsl.Proofs.VecBase
import Nsl.Proofs.ExceptList
/-!
# Typing of the vector/matrix operations of the VM and of `binSem`

The matrix products, the row-wise operations and the casts are instances of `mapE_get`/`zipE_get`, on top of the typing of
`zipBin`, `mapBinR`, `dotFrom` from `VecBase`; `binSem` is used through one equation per accepted operator/type
combination (`BinCase`).
-/
namespace Nsl
namespace Vec
open Core VM CoreSem Lower Sim

theorem fits_vec_inv {n : Nat} {v : Val} (h : fits (.vec n) v = true) :
    ∃ vs, v = .list vs ∧ vs.length = n ∧ ∀ x ∈ vs, isAtom x = true :=
  fitsVec_inv (fits_vec ▸ h)

theorem fits_vec_mk {n : Nat} {vs : List Val} (hl : vs.length = n) (ha : ∀ x ∈ vs, isAtom x = true) :
    fits (.vec n) (.list vs) = true :=
  fitsVec_mk hl ha

/-! ## Matrix products, row-wise operations, casts

In each instance the step `g` is a chain of binds, and `bind_assoc` brings `g x >>= …` to the shape of the defining
equation. -/

theorem matMulRow_typed (row m1 : List Val) (js : List Nat) (zs : List Val) (h : matMulRow row m1 js = .ok zs) :
    zs.length = js.length ∧ ∀ z ∈ zs, isAtom z = true :=
  mapE_all
    (mapE_get (f := matMulRow row m1) (g := fun j => column m1 j >>= dotFrom (.int 0) row) rfl
      (fun _ _ => by simp only [bind_assoc]; rfl) h)
    fun _ _ _ hz => let ⟨_, _, hd⟩ := bind_ok hz; dotFrom_atom _ _ _ _ rfl hd

theorem matMulVec_typed (v : List Val) (m zs : List Val) (h : matMulVec m v = .ok zs) :
    zs.length = m.length ∧ ∀ z ∈ zs, isAtom z = true :=
  mapE_all
    (mapE_get (f := fun m => matMulVec m v) (g := fun x => asList x >>= fun row => dotFrom (.int 0) row v) rfl
      (fun _ _ => by simp only [bind_assoc]; rfl) h)
    fun _ _ _ hz => let ⟨_, _, hd⟩ := bind_ok hz; dotFrom_atom _ _ _ _ rfl hd

theorem castList_typed (s : Sc) (xs ys : List Val) (h : castList s xs = .ok ys) :
    ys.length = xs.length ∧ ∀ y ∈ ys, isAtom y = true :=
  mapE_all (mapE_get (f := castList s) (g := castScalar s) rfl (fun _ _ => rfl) h) fun _ _ _ hz => castScalar_atom hz

theorem wrap_ok {x : Except Err (List Val)} {z : Val} (h : (x >>= fun zs => .ok (.list zs)) = .ok z) :
    ∃ zs, x = .ok zs ∧ z = .list zs := by
  obtain ⟨zs, hz, h⟩ := bind_ok h
  cases h
  exact ⟨zs, hz, rfl⟩

/-- The step of a map over the rows of a matrix: unwrap the row, apply `k`, wrap the result. -/
def rowStep (k : List Val → Except Err (List Val)) (x : Val) : Except Err Val :=
  asList x >>= fun r => k r >>= fun r' => .ok (.list r')

theorem rowStep_ok {k : List Val → Except Err (List Val)} {x z : Val} (h : rowStep k x = .ok z) :
    ∃ xs zs, x = .list xs ∧ k xs = .ok zs ∧ z = .list zs := by
  obtain ⟨xs, hx, h⟩ := bind_ok h
  obtain ⟨zs, hz, rfl⟩ := wrap_ok h
  exact ⟨xs, zs, asList_ok hx, hz, rfl⟩

/-- If `k` takes a row of `c` components to `c` atoms, `rowStep k` takes rows of width `c` to rows of width `c`. -/
theorem rowStep_fits {k : List Val → Except Err (List Val)} {c : Nat}
    (hk : ∀ xs zs, xs.length = c → k xs = .ok zs → zs.length = xs.length ∧ ∀ z ∈ zs, isAtom z = true) (x z : Val)
    (hx : fitsVec c x = true) (h : rowStep k x = .ok z) : fitsVec c z = true := by
  obtain ⟨xs, zs, rfl, hz, rfl⟩ := rowStep_ok h
  obtain ⟨_, hxs, hl, _⟩ := fitsVec_inv hx
  cases hxs
  obtain ⟨hzl, hza⟩ := hk _ _ hl hz
  exact fitsVec_mk (hzl.trans hl) hza

theorem matMulGo_typed (c : Nat) (m1 : List Val) (l zs : List Val) (h : matMul.go c m1 l = .ok zs) :
    zs.length = l.length ∧ ∀ z ∈ zs, fitsVec c z = true :=
  mapE_all
    (mapE_get (f := matMul.go c m1) (g := rowStep fun row => matMulRow row m1 (List.range c)) rfl
      (fun _ _ => by simp only [rowStep, bind_assoc]; rfl) h)
    fun _ _ _ hz => by
      obtain ⟨row, y, rfl, hy, rfl⟩ := rowStep_ok hz
      obtain ⟨hl, ha⟩ := matMulRow_typed _ _ _ _ hy
      exact fitsVec_mk (hl.trans List.length_range) ha

theorem rowsMapR_get (o : SOp) (it : Bool) (s : Val) {A Z : List Val} (h : rowsMapR o it s A = .ok Z) :
    Z.length = A.length ∧ ∀ i (hA : i < A.length) (hZ : i < Z.length), rowStep (mapBinR o it s) A[i] = .ok Z[i] :=
  mapE_get (f := rowsMapR o it s) rfl (fun _ _ => by simp only [rowStep, bind_assoc]; rfl) h

theorem rowsMapR_typed (o : SOp) (it : Bool) (s : Val) (c : Nat) (xs zs : List Val)
    (hx : ∀ x ∈ xs, fitsVec c x = true) (h : rowsMapR o it s xs = .ok zs) :
    zs.length = xs.length ∧ ∀ z ∈ zs, fitsVec c z = true :=
  mapE_all (rowsMapR_get o it s h) fun x hx' z => rowStep_fits (fun xs zs _ => mapBinR_typed o it s xs zs) x z (hx x hx')

theorem castRows_typed (s : Sc) (c : Nat) (xs ys : List Val) (hx : ∀ x ∈ xs, fitsVec c x = true)
    (h : castRows s xs = .ok ys) : ys.length = xs.length ∧ ∀ y ∈ ys, fitsVec c y = true :=
  mapE_all (mapE_get (f := castRows s) (g := rowStep (castList s)) rfl
    (fun _ _ => by simp only [rowStep, bind_assoc]; rfl) h)
    fun x hx' y => rowStep_fits (fun xs ys _ => castList_typed s xs ys) x y (hx x hx')

theorem rowsZip_get (o : SOp) (it : Bool) {A B Z : List Val} (h : rowsZip o it A B = .ok Z) :
    Z.length = min A.length B.length ∧ ∀ i (hA : i < A.length) (hB : i < B.length) (hZ : i < Z.length),
      (asList A[i] >>= fun xr => rowStep (zipBin o it xr) B[i]) = .ok Z[i] :=
  zipE_get (f := rowsZip o it) (g := fun x y => asList x >>= fun xr => rowStep (zipBin o it xr) y) (fun _ => rfl)
    (fun xs => by cases xs <;> rfl) (fun _ _ _ _ => by simp only [rowStep, bind_assoc]; rfl) h

theorem rowsZip_typed (o : SOp) (it : Bool) (c : Nat) (xs ys zs : List Val)
    (hx : ∀ x ∈ xs, fitsVec c x = true) (hy : ∀ y ∈ ys, fitsVec c y = true) (h : rowsZip o it xs ys = .ok zs) :
    zs.length = min xs.length ys.length ∧ ∀ z ∈ zs, fitsVec c z = true :=
  zipE_all (g := fun x y => asList x >>= fun xr => rowStep (zipBin o it xr) y) (rowsZip_get o it h)
    fun x hx' y hy' z hz => by
      obtain ⟨xr, rfl, hxl, _⟩ := fitsVec_inv (hx x hx')
      exact rowStep_fits (k := zipBin o it xr) (fun yr zr hyl hzr => by
        have := zipBin_typed o it _ _ _ hzr
        exact ⟨by omega, this.2⟩) y z (hy y hy') hz

theorem castExec_typed {ty et : ITy} {a z : Val} (hok : okCast ty et = true) (ha : fits (shape et) a = true)
    (h : castExec ty a = .ok z) : fits (shape ty) z = true := by
  cases ty with
  | sc s => exact castScalar_atom h
  | vec s n =>
    simp only [okCast, beq_iff_eq] at hok
    rw [← hok] at ha
    obtain ⟨xs, rfl, hl, _⟩ := fits_vec_inv ha
    obtain ⟨ys, hz, rfl⟩ := wrap_ok h
    obtain ⟨hyl, hya⟩ := castList_typed s _ _ hz
    exact fits_vec_mk (hyl.trans hl) hya
  | mat s r c =>
    simp only [okCast, beq_iff_eq] at hok
    rw [← hok] at ha
    obtain ⟨xs, rfl, hl, hrows⟩ := fits_mat_inv ha
    obtain ⟨ys, hz, rfl⟩ := wrap_ok h
    obtain ⟨hyl, hya⟩ := castRows_typed s c _ _ hrows hz
    exact fits_mat_mk (hyl.trans hl) hya
  | arr e d => cases hok
  | struct n f => cases hok
  | void => cases hok

inductive BinCase (op : BOp) : ITy → ITy → ITy → Prop
  | sss (s1 s2 s3 : Sc) : BinCase op (.sc s3) (.sc s1) (.sc s2)
  | vvv (s1 s2 s3 : Sc) (n : Nat) : BinCase op (.vec s3 n) (.vec s1 n) (.vec s2 n)
  | vsv (s1 s2 s3 : Sc) (n : Nat) (h : op = .mul ∨ op = .div) : BinCase op (.vec s3 n) (.vec s1 n) (.sc s2)
  | svv (s1 s2 s3 : Sc) (n : Nat) (h : op = .mul) : BinCase op (.vec s3 n) (.sc s1) (.vec s2 n)
  | mmMul (s1 s2 s3 : Sc) (r k c : Nat) (h : op = .mul) : BinCase op (.mat s3 r c) (.mat s1 r k) (.mat s2 k c)
  | mmRow (s1 s2 s3 : Sc) (r c : Nat) (h : op ≠ .mul) : BinCase op (.mat s3 r c) (.mat s1 r c) (.mat s2 r c)
  | mv (s1 s2 s3 : Sc) (r c : Nat) (h : op = .mul) : BinCase op (.vec s3 r) (.mat s1 r c) (.vec s2 c)
  | ms (s1 s2 s3 : Sc) (r c : Nat) (h : op = .mul ∨ op = .div) : BinCase op (.mat s3 r c) (.mat s1 r c) (.sc s2)
  | sm (s1 s2 s3 : Sc) (r c : Nat) (h : op = .mul) : BinCase op (.mat s3 r c) (.sc s1) (.mat s2 r c)

theorem okBin_cases {op : BOp} {ty lt rt : ITy} (h : okBin op ty lt rt = true) : BinCase op ty lt rt := by
  unfold okBin okBinSh at h
  split at h
  next hl hr ht =>
    obtain ⟨s1, rfl⟩ := shape_atom hl
    obtain ⟨s2, rfl⟩ := shape_atom hr
    obtain ⟨s3, rfl⟩ := shape_atom ht
    exact .sss s1 s2 s3
  next n m k hl hr ht =>
    obtain ⟨s1, rfl⟩ := shape_vec hl
    obtain ⟨s2, rfl⟩ := shape_vec hr
    obtain ⟨s3, rfl⟩ := shape_vec ht
    simp only [Bool.and_eq_true, beq_iff_eq] at h
    obtain ⟨rfl, rfl⟩ := h
    exact .vvv s1 s2 s3 _
  next n k hl hr ht =>
    obtain ⟨s1, rfl⟩ := shape_vec hl
    obtain ⟨s2, rfl⟩ := shape_atom hr
    obtain ⟨s3, rfl⟩ := shape_vec ht
    simp only [Bool.and_eq_true, Bool.or_eq_true, beq_iff_eq] at h
    obtain ⟨rfl, hop⟩ := h
    exact .vsv s1 s2 s3 _ hop
  next n k hl hr ht =>
    obtain ⟨s1, rfl⟩ := shape_atom hl
    obtain ⟨s2, rfl⟩ := shape_vec hr
    obtain ⟨s3, rfl⟩ := shape_vec ht
    simp only [Bool.and_eq_true, beq_iff_eq] at h
    obtain ⟨rfl, hop⟩ := h
    exact .svv s1 s2 s3 _ hop
  next r k k' c r' c' hl hr ht =>
    obtain ⟨s1, rfl⟩ := shape_mat hl
    obtain ⟨s2, rfl⟩ := shape_mat hr
    obtain ⟨s3, rfl⟩ := shape_mat ht
    by_cases hop : op = .mul
    · simp only [hop, beq_self_eq_true, if_true, Bool.and_eq_true, beq_iff_eq] at h
      obtain ⟨⟨rfl, rfl⟩, rfl⟩ := h
      exact .mmMul s1 s2 s3 _ _ _ hop
    · simp only [beq_iff_eq, hop, if_false, Bool.and_eq_true] at h
      obtain ⟨⟨⟨rfl, rfl⟩, rfl⟩, rfl⟩ := h
      exact .mmRow s1 s2 s3 _ _ hop
  next r c n k hl hr ht =>
    obtain ⟨s1, rfl⟩ := shape_mat hl
    obtain ⟨s2, rfl⟩ := shape_vec hr
    obtain ⟨s3, rfl⟩ := shape_vec ht
    simp only [Bool.and_eq_true, beq_iff_eq] at h
    obtain ⟨⟨hop, rfl⟩, rfl⟩ := h
    exact .mv s1 s2 s3 _ _ hop
  next r c r' c' hl hr ht =>
    obtain ⟨s1, rfl⟩ := shape_mat hl
    obtain ⟨s2, rfl⟩ := shape_atom hr
    obtain ⟨s3, rfl⟩ := shape_mat ht
    simp only [Bool.and_eq_true, Bool.or_eq_true, beq_iff_eq] at h
    obtain ⟨⟨hop, rfl⟩, rfl⟩ := h
    exact .ms s1 s2 s3 _ _ hop
  next r c r' c' hl hr ht =>
    obtain ⟨s1, rfl⟩ := shape_atom hl
    obtain ⟨s2, rfl⟩ := shape_mat hr
    obtain ⟨s3, rfl⟩ := shape_mat ht
    simp only [Bool.and_eq_true, beq_iff_eq] at h
    obtain ⟨⟨hop, rfl⟩, rfl⟩ := h
    exact .sm s1 s2 s3 _ _ hop
  · cases h

/-! ## `binSem` on each combination

The vector and matrix values are lists; `s * v` and `s * M` are computed as `v * s`, `M * s`. -/

section
variable {op : BOp} {s1 s2 s3 : Sc} {n r k c : Nat} {a b : Val} {xs ys : List Val}

theorem binSem_sss : binSem op (.sc s3) (.sc s1) (.sc s2) a b = scalarBin op.toSOp (scIsInt (.sc s3)) a b := rfl

theorem binSem_vvv : binSem op (.vec s3 n) (.vec s1 n) (.vec s2 n) (.list xs) (.list ys) =
    zipBin op.toSOp (scIsInt (.vec s3 n)) xs ys >>= fun zs => .ok (.list zs) := rfl

theorem binSem_vsv (hop : op = .mul ∨ op = .div) : binSem op (.vec s3 n) (.vec s1 n) (.sc s2) (.list xs) b =
    mapBinR op.toSOp (scIsInt (.vec s3 n)) b xs >>= fun zs => .ok (.list zs) := by
  rcases hop with rfl | rfl <;> rfl

theorem binSem_svv : binSem .mul (.vec s3 n) (.sc s1) (.vec s2 n) a (.list ys) =
    mapBinR .mul (scIsInt (.vec s3 n)) a ys >>= fun zs => .ok (.list zs) := rfl

theorem binSem_mmMul : binSem .mul (.mat s3 r c) (.mat s1 r k) (.mat s2 k c) (.list xs) (.list ys) =
    matMul.go c ys xs >>= fun zs => .ok (.list zs) := rfl

theorem binSem_mmRow (hop : op ≠ .mul) : binSem op (.mat s3 r c) (.mat s1 r c) (.mat s2 r c) (.list xs) (.list ys) =
    rowsZip op.toSOp (scIsInt (.mat s3 r c)) xs ys >>= fun zs => .ok (.list zs) := by
  cases op <;> first | rfl | exact absurd rfl hop

theorem binSem_mv : binSem .mul (.vec s3 r) (.mat s1 r c) (.vec s2 c) (.list xs) (.list ys) =
    matMulVec xs ys >>= fun zs => .ok (.list zs) := rfl

theorem binSem_ms (hop : op = .mul ∨ op = .div) : binSem op (.mat s3 r c) (.mat s1 r c) (.sc s2) (.list xs) b =
    rowsMapR op.toSOp (scIsInt (.mat s3 r c)) b xs >>= fun zs => .ok (.list zs) := by
  rcases hop with rfl | rfl <;> rfl

theorem binSem_sm : binSem .mul (.mat s3 r c) (.sc s1) (.mat s2 r c) a (.list ys) =
    rowsMapR .mul (scIsInt (.mat s3 r c)) a ys >>= fun zs => .ok (.list zs) := rfl

end

theorem binSem_typed {op : BOp} {ty lt rt : ITy} {a b z : Val} (hok : BinCase op ty lt rt)
    (ha : fits (shape lt) a = true) (hb : fits (shape rt) b = true) (h : binSem op ty lt rt a b = .ok z) :
    fits (shape ty) z = true := by
  cases hok with
  | sss s1 s2 s3 => exact scalarBin_atom (binSem_sss ▸ h)
  | vvv s1 s2 s3 n =>
    obtain ⟨xs, rfl, hxl, _⟩ := fits_vec_inv ha
    obtain ⟨ys, rfl, hyl, _⟩ := fits_vec_inv hb
    rw [binSem_vvv] at h
    obtain ⟨zs, hz, rfl⟩ := wrap_ok h
    obtain ⟨hl, hat⟩ := zipBin_typed _ _ _ _ _ hz
    exact fits_vec_mk (by omega) hat
  | vsv s1 s2 s3 n hop =>
    obtain ⟨xs, rfl, hxl, _⟩ := fits_vec_inv ha
    rw [binSem_vsv hop] at h
    obtain ⟨zs, hz, rfl⟩ := wrap_ok h
    obtain ⟨hl, hat⟩ := mapBinR_typed _ _ _ _ _ hz
    exact fits_vec_mk (hl.trans hxl) hat
  | svv s1 s2 s3 n hop =>
    subst hop
    obtain ⟨ys, rfl, hyl, _⟩ := fits_vec_inv hb
    rw [binSem_svv] at h
    obtain ⟨zs, hz, rfl⟩ := wrap_ok h
    obtain ⟨hl, hat⟩ := mapBinR_typed _ _ _ _ _ hz
    exact fits_vec_mk (hl.trans hyl) hat
  | mmMul s1 s2 s3 r k c hop =>
    subst hop
    obtain ⟨xs, rfl, hxl, _⟩ := fits_mat_inv ha
    obtain ⟨ys, rfl, hyl, _⟩ := fits_mat_inv hb
    rw [binSem_mmMul] at h
    obtain ⟨zs, hz, rfl⟩ := wrap_ok h
    obtain ⟨hl, hat⟩ := matMulGo_typed _ _ _ _ hz
    exact fits_mat_mk (hl.trans hxl) hat
  | mmRow s1 s2 s3 r c hop =>
    obtain ⟨xs, rfl, hxl, hxr⟩ := fits_mat_inv ha
    obtain ⟨ys, rfl, hyl, hyr⟩ := fits_mat_inv hb
    rw [binSem_mmRow hop] at h
    obtain ⟨zs, hz, rfl⟩ := wrap_ok h
    obtain ⟨hl, hat⟩ := rowsZip_typed _ _ c _ _ _ hxr hyr hz
    exact fits_mat_mk (by omega) hat
  | mv s1 s2 s3 r c hop =>
    subst hop
    obtain ⟨xs, rfl, hxl, _⟩ := fits_mat_inv ha
    obtain ⟨ys, rfl, hyl, _⟩ := fits_vec_inv hb
    rw [binSem_mv] at h
    obtain ⟨zs, hz, rfl⟩ := wrap_ok h
    obtain ⟨hl, hat⟩ := matMulVec_typed _ _ _ hz
    exact fits_vec_mk (hl.trans hxl) hat
  | ms s1 s2 s3 r c hop =>
    obtain ⟨xs, rfl, hxl, hxr⟩ := fits_mat_inv ha
    rw [binSem_ms hop] at h
    obtain ⟨zs, hz, rfl⟩ := wrap_ok h
    obtain ⟨hl, hat⟩ := rowsMapR_typed _ _ _ c _ _ hxr hz
    exact fits_mat_mk (hl.trans hxl) hat
  | sm s1 s2 s3 r c hop =>
    subst hop
    obtain ⟨ys, rfl, hyl, hyr⟩ := fits_mat_inv hb
    rw [binSem_sm] at h
    obtain ⟨zs, hz, rfl⟩ := wrap_ok h
    obtain ⟨hl, hat⟩ := rowsMapR_typed _ _ _ c _ _ hyr hz
    exact fits_mat_mk (hl.trans hyl) hat

end Vec
end Nsl
