import Nsl.Proofs.VecBin
/-!
# The tail of a lowered binary node computes `binSem`

The unrolled row loops `rowsMM`, `rowsMS`, `rowsSM` are instances of one loop (`rowsGen`) whose rows compute the rows
of `rowsZip` / `rowsMapR`; the other cases are a single instruction.
-/
namespace Nsl
namespace Vec
open Core VM CoreSem Lower Sim

theorem allLists_of_fitsVec {c : Nat} {Z : List Val} (h : ∀ z ∈ Z, fitsVec c z = true) :
    (Z.all fun v => match v with | .list _ => true | _ => false) = true := by
  rw [List.all_eq_true]
  intro z hz
  obtain ⟨vs, rfl, _, _⟩ := fitsVec_inv (h z hz)
  rfl

theorem noPtr_of_fitsVec {c : Nat} {Z : List Val} (h : ∀ z ∈ Z, fitsVec c z = true) :
    ∀ z ∈ Z, Val.isPtr z = false := by
  intro z hz
  obtain ⟨vs, rfl, _, _⟩ := fitsVec_inv (h z hz)
  rfl

variable (P : Program) {code : List Instr} {fr : Frame} {g : Globals} {ρ : Map Nat Val}

/-- `rowCode n k1` is the code of row `n` numbered from `k1`; it defines `k1 + w` last. -/
def rowsGen (w : Nat) (rowCode : Nat → Nat → List Instr) : Nat → Nat → List Instr × List Opd × Nat
  | 0, k => ([], [], k)
  | n + 1, k =>
    let (code, rows, k1) := rowsGen w rowCode n k
    (code ++ rowCode n k1, rows ++ [.ref (k1 + w)], k1 + w + 1)

theorem OpdsEval.append {fr : Frame} : ∀ {os : List Opd} {vs : List Val} {os' : List Opd} {vs' : List Val},
    OpdsEval fr os vs → OpdsEval fr os' vs' → OpdsEval fr (os ++ os') (vs ++ vs')
  | [], [], _, _, _, h' => by simpa using h'
  | o :: os, v :: vs, _, _, h, h' => ⟨h.1, OpdsEval.append h.2 h'⟩
  | [], _ :: _, _, _, h, _ => by cases h
  | _ :: _, [], _, _, h, _ => by cases h

/-- Row `n` of a loop numbered from `k` on: started in a state that agrees with `ρ` below `k`, the code of the row
leaves `z` in its last register and keeps the registers below its own numbers. -/
def RowOK (P : Program) (code : List Instr) (fr : Frame) (g : Globals) (ρ : Map Nat Val) (k w : Nat)
    (rowCode : Nat → Nat → List Instr) (n : Nat) (z : Val) : Prop :=
  ∀ (k1 : Nat) (ρ1 : Map Nat Val) (q1 : Nat), k ≤ k1 → At code q1 (rowCode n k1) →
    (∀ r, r < k → Map.get ρ1 r = Map.get ρ r) →
    ∃ ρ2, Run P code q1 (rowCode n k1) k1 (ρ1, fr, g) (ρ2, fr, g) ∧ Map.get ρ2 (k1 + w) = some z

theorem rowsGen_sim {w : Nat} {rowCode : Nat → Nat → List Instr} (Z : List Val) (hZ : ∀ z ∈ Z, Val.isPtr z = false)
    (k : Nat)
    (H : ∀ (n : Nat) (hn : n < Z.length), RowOK P code fr g ρ k w rowCode n Z[n]) :
    ∀ (n : Nat), n ≤ Z.length → ∀ (rc : List Instr) (rows : List Opd) (k' q : Nat),
      rowsGen w rowCode n k = (rc, rows, k') → At code q rc →
      ∃ ρ', Run P code q rc k (ρ, fr, g) (ρ', fr, g) ∧ OpdsEval (vf ρ' fr) rows (Z.take n) ∧
        k ≤ k' ∧ ∀ o ∈ rows, OpdBelow o k' := by
  intro n
  induction n with
  | zero =>
    intro _ rc rows k' q h hat
    simp only [rowsGen, Prod.mk.injEq] at h
    obtain ⟨rfl, rfl, rfl⟩ := h
    exact ⟨ρ, Run.nil _, by simp [OpdsEval], Nat.le_refl _, by simp⟩
  | succ n ih =>
    intro hn rc rows k' q h hat
    rcases h0 : rowsGen w rowCode n k with ⟨c0, rows0, k0⟩
    simp only [rowsGen, h0, Prod.mk.injEq] at h
    obtain ⟨rfl, rfl, rfl⟩ := h
    obtain ⟨ρ0, r0, e0, le0, b0⟩ := ih (by omega) c0 rows0 k0 q h0 hat.left
    obtain ⟨ρ2, r2, e2⟩ := H n (by omega) k0 ρ0 (q + c0.length) le0 hat.right r0.2
    refine ⟨ρ2, r0.append r2 le0, ?_, by omega, ?_⟩
    · have hlt : n < Z.length := by omega
      have htake : Z.take (n + 1) = Z.take n ++ [Z[n]] := by
        rw [List.take_add_one, List.getElem?_eq_getElem hlt]; rfl
      rw [htake]
      refine OpdsEval.append (OpdsEval.frame r2.2 e0 b0) ?_
      exact ⟨⟨by simp [evalOpd, e2], hZ _ (List.getElem_mem hlt)⟩, trivial⟩
    · intro o ho
      rcases List.mem_append.1 ho with ho | ho
      · exact (b0 o ho).mono (by omega)
      · simp only [List.mem_singleton] at ho; subst ho; simp only [OpdBelow]; omega

/-- The three row-wise cases end alike: when every row computes its row of `Z`, the loop followed by `construct`
leaves the matrix `Z`. -/
theorem rows_tail {w : Nat} {rowCode : Nat → Nat → List Instr} {Z : List Val} {s : Sc} {r c q k2 : Nat}
    (hZ : ∀ z ∈ Z, fitsVec c z = true)
    (hr : Z.length = r) (H : ∀ (n : Nat) (hn : n < Z.length), RowOK P code fr g ρ k2 w rowCode n Z[n])
    (hat : At code q (rowsTail (.mat s r c) (rowsGen w rowCode r k2)).1) :
    TailOK P code q k2 ρ fr g (.list Z) (rowsTail (.mat s r c) (rowsGen w rowCode r k2)) := by
  rcases hrm : rowsGen w rowCode r k2 with ⟨rc, rows, k3⟩
  rw [hrm] at hat
  obtain ⟨ρ', r0, e0, le0, _⟩ :=
    rowsGen_sim P Z (noPtr_of_fitsVec hZ) k2 H r (by omega) rc rows k3 q hrm hat.left
  rw [List.take_of_length_le (by omega)] at e0
  have hcons : constructExec (.mat s r c) Z = .ok (.list Z) := if_pos (allLists_of_fitsVec hZ)
  have hstep := step_construct (cf := callD P 0) (g := g) hat.right.head e0 hcons
  exact ⟨Map.set ρ' k3 (.list Z), r0.append (Run.reg hstep (Nat.le_refl k3)) le0, evalOpd_vf_set ..⟩

theorem matGet_row {q k dst : Nat} {ty : ITy} {m : Opd} {n : Nat} {A : List Val}
    (hc : code[q]? = some (.matGet dst ty m (.cInt (n : Int)))) (hm : evalOpd (vf ρ fr) m = .ok (.list A))
    (hn : n < A.length) (hk : k ≤ dst) :
    Run P code q [.matGet dst ty m (.cInt (n : Int))] k (ρ, fr, g) (Map.set ρ dst A[n], fr, g) :=
  Run.reg (step_matGet (cf := callD P 0) (g := g) hc hm rfl (i := .int n) (by simp [evalOpd]) rfl
    (indexOf_nat hn) (getKey_idx_iff.2 (List.getElem?_eq_getElem hn))) hk

def rowMM (op : BOp) (lt rt resT : ITy) (l r : Opd) (n k1 : Nat) : List Instr :=
  [ .matGet k1 (rowType lt) l (.cInt (n : Int)), .matGet (k1 + 1) (rowType rt) r (.cInt (n : Int)),
    mkBin (k1 + 2) op (rowType resT) (.ref k1) (rowType lt) (.ref (k1 + 1)) (rowType rt) ]

theorem rowsMM_eq (op : BOp) (lt rt resT : ITy) (l r : Opd) : ∀ (n k : Nat),
    rowsMM op lt rt resT l r n k = rowsGen 2 (rowMM op lt rt resT l r) n k := by
  intro n
  induction n with
  | zero => intro k; rfl
  | succ n ih => intro k; simp only [rowsMM, rowsGen, ih, rowMM]

theorem rowMM_ok {op : BOp} {s1 s2 s3 : Sc} {r c k2 : Nat} {vl vr : Opd} {A B Z : List Val}
    (hz : rowsZip op.toSOp (scIsInt (.mat s3 r c)) A B = .ok Z)
    (hevl : evalOpd (vf ρ fr) vl = .ok (.list A)) (hevr : evalOpd (vf ρ fr) vr = .ok (.list B))
    (hbl : OpdBelow vl k2) (hbr : OpdBelow vr k2) (n : Nat) (hnA : n < A.length) (hnB : n < B.length)
    (hn : n < Z.length) :
    RowOK P code fr g ρ k2 2 (rowMM op (.mat s1 r c) (.mat s2 r c) (.mat s3 r c) vl vr) n Z[n] := by
  intro k1 ρ1 q1 hk1 hat1 hfr
  obtain ⟨an, hAn, h⟩ := bind_ok ((rowsZip_get _ _ hz).2 n hnA hnB hn)
  obtain ⟨bn, zn, hBn, hzip, hZn⟩ := rowStep_ok h
  simp only [rowMM, rowType, mkBin_vvv] at hat1 ⊢
  have st1 := matGet_row P (g := g) (fr := fr) hat1.head (evalOpd_frame hevl hbl hfr) hnA (Nat.le_refl k1)
  have hfr1 : ∀ r, r < k2 → Map.get (Map.set ρ1 k1 A[n]) r = Map.get ρ r := fun r' hr' =>
    (st1.2 r' (Nat.lt_of_lt_of_le hr' hk1)).trans (hfr r' hr')
  have st2 := matGet_row P (g := g) (fr := fr) hat1.tail.head (evalOpd_frame hevr hbr hfr1) hnB (Nat.le_succ k1)
  rw [asList_ok hAn] at st1 st2
  rw [hBn] at st2
  have st3 := one_bin P (g := g) (fr := fr) (ρ := Map.set (Map.set ρ1 k1 (.list an)) (k1 + 1) (.list bn))
    (dst := k1 + 2) (o := .v op.toSOp) (ty := .vec s3 c) (x := .ref k1) (y := .ref (k1 + 1))
    (a := .list an) (b := .list bn) (z := .list zn) hat1.tail.tail.head
    (evalOpd_vf_ref _ _ k1 _ (by rw [Map.get_set_ne _ _ _ _ (by omega), Map.get_set_eq]))
    rfl (evalOpd_vf_set ..) rfl (by rw [binExec_v, scIsInt_row s3 r c, hzip]; rfl) (Nat.le_add_right k1 2)
  exact ⟨_, (st1.append st2 (Nat.le_refl k1)).append st3 (Nat.le_refl k1), by rw [Map.get_set_eq, hZn]⟩

/-! ## `M op s` and `s * M`: one `matGet` and one vector∘scalar opcode per row -/

def rowS (rty mty : ITy) (o' : BinOp) (m s : Opd) (n k1 : Nat) : List Instr :=
  [ .matGet k1 mty m (.cInt (n : Int)), .bin (k1 + 1) o' rty (.ref k1) s ]

theorem rowS_ok {rty mty : ITy} {o' : BinOp} {o : SOp} {it : Bool} {m s : Opd} {A Z : List Val} {sv : Val} {k2 : Nat}
    (hz : rowsMapR o it sv A = .ok Z)
    (hexec : ∀ an, binExec o' rty (.list an) sv = mapBinR o it sv an >>= fun zs => .ok (.list zs))
    (hm : evalOpd (vf ρ fr) m = .ok (.list A)) (hs : evalOpd (vf ρ fr) s = .ok sv) (hps : Val.isPtr sv = false)
    (hbm : OpdBelow m k2) (hbs : OpdBelow s k2) (n : Nat) (hn : n < Z.length) :
    RowOK P code fr g ρ k2 1 (rowS rty mty o' m s) n Z[n] := by
  intro k1 ρ1 q1 hk1 hat1 hfr
  obtain ⟨hl, hi⟩ := rowsMapR_get _ _ _ hz
  have hnA : n < A.length := by omega
  obtain ⟨an, zn, hAn, hmap, hZn⟩ := rowStep_ok (hi n hnA hn)
  have st1 := matGet_row P (g := g) (fr := fr) hat1.head (evalOpd_frame hm hbm hfr) hnA (Nat.le_refl k1)
  rw [hAn] at st1
  have hfr1 : ∀ r, r < k2 → Map.get (Map.set ρ1 k1 (.list an)) r = Map.get ρ r := fun r' hr' =>
    (st1.2 r' (Nat.lt_of_lt_of_le hr' hk1)).trans (hfr r' hr')
  have st2 := one_bin P (g := g) (fr := fr) (ρ := Map.set ρ1 k1 (.list an))
    (dst := k1 + 1) (o := o') (ty := rty) (x := .ref k1) (y := s)
    (a := .list an) (b := sv) (z := .list zn) hat1.tail.head (evalOpd_vf_set ..)
    rfl (evalOpd_frame hs hbs hfr1) hps (by rw [hexec, hmap]; rfl) (Nat.le_succ k1)
  exact ⟨_, st1.append st2 (Nat.le_refl k1), by rw [Map.get_set_eq, hZn]⟩

theorem rowsMS_eq {op : BOp} (hop : op = .mul ∨ op = .div) (s1 s2 s3 : Sc) (r c : Nat) (l rr : Opd) : ∀ (n k : Nat),
    rowsMS op (.mat s1 r c) (.sc s2) (.mat s3 r c) l rr n k =
      rowsGen 1 (rowS (.vec s3 c) (.vec s1 c) (vsOp op) l rr) n k := by
  intro n
  induction n with
  | zero => intro k; rfl
  | succ n ih => intro k; simp only [rowsMS, rowsGen, ih, rowS, rowType, mkBin_vs hop]

theorem rowsSM_eq (s1 s2 s3 : Sc) (r c : Nat) (l rr : Opd) :
    ∀ (n k : Nat), rowsSM .mul (.sc s1) (.mat s2 r c) (.mat s3 r c) l rr n k =
      rowsGen 1 (rowS (.vec s3 c) (.vec s2 c) .vMulS rr l) n k := by
  intro n
  induction n with
  | zero => intro k; rfl
  | succ n ih => intro k; simp only [rowsSM, rowsGen, ih, rowS, rowType, mkBin_sv]

theorem bin_tail {op : BOp} {ty lt rt : ITy} {a b z : Val} {vl vr : Opd} {k2 q : Nat}
    (hcase : BinCase op ty lt rt) (ha : fits (shape lt) a = true) (hb : fits (shape rt) b = true)
    (hsem : binSem op ty lt rt a b = .ok z)
    (hevl : evalOpd (vf ρ fr) vl = .ok a) (hevr : evalOpd (vf ρ fr) vr = .ok b)
    (hbl : OpdBelow vl k2) (hbr : OpdBelow vr k2)
    (hat : At code q (binTail op ty lt rt vl vr k2).1) :
    TailOK P code q k2 ρ fr g z (binTail op ty lt rt vl vr k2) := by
  have hpa := fits_noPtr ha
  have hpb := fits_noPtr hb
  cases hcase with
  | sss s1 s2 s3 =>
    rw [binTail_sss] at hat ⊢
    exact tail_single P hat hevl hpa hevr hpb (binExec_sss.trans hsem)
  | vvv s1 s2 s3 n =>
    rw [binTail_vvv] at hat ⊢
    exact tail_single P hat hevl hpa hevr hpb (binExec_vvv.trans hsem)
  | vsv s1 s2 s3 n hop =>
    rw [binTail_vsv hop] at hat ⊢
    exact tail_single P hat hevl hpa hevr hpb ((binExec_vsv hop).trans hsem)
  | svv s1 s2 s3 n hop =>
    subst hop
    rw [binTail_svv] at hat ⊢
    exact tail_single P hat hevr hpb hevl hpa (binExec_svv.trans hsem)
  | mmMul s1 s2 s3 r k c hop =>
    subst hop
    rw [binTail_mmMul] at hat ⊢
    exact tail_single P hat hevl hpa hevr hpb (binExec_mmMul.trans hsem)
  | mv s1 s2 s3 r c hop =>
    subst hop
    rw [binTail_mv] at hat ⊢
    exact tail_single P hat hevl hpa hevr hpb (binExec_mv.trans hsem)
  | mmRow s1 s2 s3 r c hop =>
    obtain ⟨A, rfl, hAl, hAr⟩ := fits_mat_inv ha
    obtain ⟨B, rfl, hBl, hBr⟩ := fits_mat_inv hb
    rw [binSem_mmRow hop] at hsem
    obtain ⟨Z, hz, rfl⟩ := wrap_ok hsem
    obtain ⟨hZl, hZr⟩ := rowsZip_typed _ _ c _ _ _ hAr hBr hz
    rw [hAl, hBl, Nat.min_self] at hZl
    rw [binTail_mmRow hop, rowsMM_eq] at hat ⊢
    exact rows_tail P hZr hZl
      (fun n hn => rowMM_ok P hz hevl hevr hbl hbr n (by omega) (by omega) hn) hat
  | ms s1 s2 s3 r c hop =>
    obtain ⟨A, rfl, hAl, hAr⟩ := fits_mat_inv ha
    rw [binSem_ms hop] at hsem
    obtain ⟨Z, hz, rfl⟩ := wrap_ok hsem
    obtain ⟨hZl, hZr⟩ := rowsMapR_typed _ _ _ c _ _ hAr hz
    rw [binTail_ms, rowsMS_eq hop] at hat ⊢
    exact rows_tail P hZr (hZl.trans hAl)
      (rowS_ok P hz (fun an => by rw [binExec_vs hop, scIsInt_row s3 r c]) hevl hevr hpb hbl hbr) hat
  | sm s1 s2 s3 r c hop =>
    subst hop
    obtain ⟨B, rfl, hBl, hBr⟩ := fits_mat_inv hb
    rw [binSem_sm] at hsem
    obtain ⟨Z, hz, rfl⟩ := wrap_ok hsem
    obtain ⟨hZl, hZr⟩ := rowsMapR_typed _ _ _ c _ _ hBr hz
    rw [binTail_sm, rowsSM_eq] at hat ⊢
    exact rows_tail P hZr (hZl.trans hBl)
      (rowS_ok P hz (fun an => by rw [← scIsInt_row s3 r c]; rfl) hevr hevl hpa hbr hbl) hat

end Vec
end Nsl
