import Nsl.Proofs.SimBase
/-!
# Runs of lowered fragments

Runs compose along `++` as the lowering composes code, so positions are never normalised, and the register bound of a
composite is the bound of its first part.
-/
namespace Nsl
namespace Sim
open Core VM CoreSem Lower

abbrev St := Map Nat Val × Frame × Globals

/-- The VM runs from `q` in state `s` to `q + c.length` in state `s'` and leaves the registers below `k` alone.
The run is indexed by the fragment `c` only for its length: that `c` sits at `q` is the business of whoever supplies
the single steps (`At`), and indexing by fragments is what makes runs compose along `++`. -/
def Run (P : Program) (code : List Instr) (q : Nat) (c : List Instr) (k : Nat) (s s' : St) : Prop :=
  Steps P code (q, vf s.1 s.2.1, s.2.2) (q + c.length, vf s'.1 s'.2.1, s'.2.2) ∧
    ∀ r, r < k → Map.get s'.1 r = Map.get s.1 r

section Run
variable {P : Program} {code : List Instr} {q k : Nat}

theorem Run.nil (s : St) : Run P code q [] k s s := ⟨Steps.refl _, fun _ _ => rfl⟩

theorem Run.append {c1 c2 : List Instr} {k1 : Nat} {s s1 s2 : St} (h1 : Run P code q c1 k s s1)
    (h2 : Run P code (q + c1.length) c2 k1 s1 s2) (hk : k ≤ k1) : Run P code q (c1 ++ c2) k s s2 := by
  refine ⟨?_, fun r hr => by rw [h2.2 r (Nat.lt_of_lt_of_le hr hk), h1.2 r hr]⟩
  have := h1.1.trans h2.1
  rwa [Nat.add_assoc, ← List.length_append] at this

/-- One instruction that defines the register `dst`; `[ins]` only records that the run is one instruction long. -/
theorem Run.reg {ins : Instr} {d dst : Nat} {ρ : Map Nat Val} {fr : Frame} {g g' : Globals} {z : Val}
    (h : stepI (callD P d) code q (vf ρ fr) g = .next (q + 1) (setReg (vf ρ fr) dst z) g') (hk : k ≤ dst) :
    Run P code q [ins] k (ρ, fr, g) (Map.set ρ dst z, fr, g') :=
  ⟨Steps.one d h, fun _ hr => Map.get_set_ne _ _ _ _ (Nat.ne_of_gt (Nat.lt_of_lt_of_le hr hk))⟩

theorem Run.eff {ins : Instr} {d : Nat} {ρ : Map Nat Val} {fr fr' : Frame} {g g' : Globals}
    (h : stepI (callD P d) code q (vf ρ fr) g = .next (q + 1) (vf ρ fr') g') :
    Run P code q [ins] k (ρ, fr, g) (ρ, fr', g') :=
  ⟨Steps.one d h, fun _ _ => rfl⟩

theorem Run.opd {c : List Instr} {s s' : St} (h : Run P code q c k s s') {o : Opd} {v : Val}
    (ho : evalOpd (vf s.1 s.2.1) o = .ok v) (hb : OpdBelow o k) : evalOpd (vf s'.1 s'.2.1) o = .ok v :=
  evalOpd_frame ho hb h.2

end Run

theorem OpdsEval.listOK {fr : Frame} : ∀ {os : List Opd} {vs : List Val}, OpdsEval fr os vs → ListOK vs
  | [], [], _ => by intro v hv; cases hv
  | _ :: _, v :: vs, h => by
    intro x hx
    rcases List.mem_cons.1 hx with rfl | hx
    · exact h.1.2
    · exact OpdsEval.listOK h.2 x hx
  | [], _ :: _, h => by cases h
  | _ :: _, [], h => by cases h

theorem OpdsEval.frame {ρ ρ' : Map Nat Val} {fr fr' : Frame} {k : Nat}
    (hfr : ∀ r, r < k → Map.get ρ' r = Map.get ρ r) :
    ∀ {os : List Opd} {vs : List Val}, OpdsEval (vf ρ fr) os vs → (∀ o ∈ os, OpdBelow o k) →
      OpdsEval (vf ρ' fr') os vs
  | [], [], _, _ => trivial
  | o :: os, v :: vs, h, hb =>
    ⟨⟨evalOpd_frame h.1.1 (hb o (List.mem_cons_self ..)) hfr, h.1.2⟩,
      OpdsEval.frame hfr h.2 (fun o' ho' => hb o' (List.mem_cons_of_mem _ ho'))⟩
  | [], _ :: _, h, _ => by cases h
  | _ :: _, [], h, _ => by cases h

theorem scalar_inv {ty : ITy} (h : ty.isScalar = true) : ∃ s, ty = .sc s := by
  cases ty <;> simp [ITy.isScalar] at h
  exact ⟨_, rfl⟩

theorem isMatrix_of_scalar {ty : ITy} (h : ty.isScalar = true) : ty.isMatrix = false := by
  obtain ⟨s, rfl⟩ := scalar_inv h; rfl

theorem mkBin_scalar (dst : Nat) (op : BOp) (ty : ITy) (a : Opd) (ta : ITy) (b : Opd) (tb : ITy)
    (h : ty.isScalar = true) : mkBin dst op ty a ta b tb = .bin dst (.s op.toSOp) ty a b := by
  simp [mkBin, fromOperation, h]

theorem lowerE_bin_scalar {op : BOp} {ty : ITy} {l r : Expr} {k k1 k2 : Nat} {cl cr : List Instr} {vl vr : Opd}
    (hty : ty.isScalar = true) (hlt : (Expr.ty l).isScalar = true) (hrt : (Expr.ty r).isScalar = true)
    (hel : lowerE l k = (cl, vl, k1)) (her : lowerE r k1 = (cr, vr, k2)) :
    lowerE (.bin op ty l r) k = (cl ++ cr ++ [.bin k2 (.s op.toSOp) ty vl vr], .ref k2, k2 + 1) := by
  simp only [lowerE, hel, her, isMatrix_of_scalar hlt, isMatrix_of_scalar hrt, Bool.false_and, Bool.and_false,
    Bool.false_eq_true, if_false, mkBin_scalar _ _ _ _ _ _ _ hty]

theorem binSem_scalar {op : BOp} {ty lt rt : ITy} {a b : Val} (hlt : lt.isScalar = true) (hrt : rt.isScalar = true) :
    binSem op ty lt rt a b = scalarBin op.toSOp (scIsInt ty) a b := by
  simp only [binSem, hlt, hrt, Bool.and_self, if_true]

end Sim
end Nsl
