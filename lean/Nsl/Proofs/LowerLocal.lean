import Nsl.Proofs.LowerCode
import Nsl.Model.ScalarCore
import Nsl.Model.StorageCore
/-!
# The lowering produces block-local, single-definition code

`SLocal k c k'` is the invariant of a code fragment `c` lowered with the counter going from `k` to `k'`: every
reference `c` defines lies in `[k, k')` and is defined once, and `c` is block-local when entered with ANY set `seen` of
references below `k`.  `PLocal` is `SLocal` for label-free code; `ELocal` (expression code) adds that the result
operand is defined by the code itself.

Every instruction emitted for an expression takes a fresh number and reads operands produced earlier in the same
label-free code.  A statement is a concatenation of such fragments, branches that read the operand of the fragment
before them, and markers; no reference crosses a marker, since `SLocal.loc` holds for every entry set below the counter.
No expression or statement form needs a restriction (a stray `break` is a `br` without uses).
-/
namespace Nsl
namespace Lower
open Core Opt WF

def labelOf : Instr → Option Nat
  | .label l => some l
  | _ => none

theorem labelOf_eq_wf : Lower.labelOf = WF.labelOf := by
  funext i; cases i <;> rfl

/-- `All (labelOf · = none)`. -/
def NoLabels (code : List Instr) : Prop := ∀ i ∈ code, labelOf i = none

theorem NoLabels.iff_all {code : List Instr} : NoLabels code ↔ All (labelOf · = none) code := Iff.rfl

theorem seenOf_append : ∀ (a : List Instr) (seen : List Nat) (b : List Instr),
    seenOf seen (a ++ b) = seenOf (seenOf seen a) b
  | [], _, _ => rfl
  | _ :: rest, _, b => by simp only [List.cons_append, seenOf]; exact seenOf_append rest _ b

theorem blockLocal_append : ∀ (a : List Instr) (seen : List Nat) (b : List Instr),
    blockLocal seen (a ++ b) = (blockLocal seen a && blockLocal (seenOf seen a) b)
  | [], _, _ => rfl
  | ins :: rest, seen, b => by
    simp only [List.cons_append, blockLocal, seenOf, seenStep]
    split
    · exact blockLocal_append rest [] b
    · cases defOf ins <;> simp only [blockLocal_append rest, Bool.and_assoc]

theorem blockLocal_single {ins : Instr} {seen : List Nat} (hl : labelOf ins = none)
    (hu : ∀ r ∈ usesOf ins, r ∈ seen) (hd : ∀ d, defOf ins = some d → d ∉ seen) :
    blockLocal seen [ins] = true := by
  simp only [blockLocal]
  split
  · cases hl
  · rw [Bool.and_eq_true, List.all_eq_true]
    refine ⟨fun r hr => List.contains_iff_mem.2 (hu r hr), ?_⟩
    cases h : defOf ins with
    | none => rfl
    | some d => simpa using hd d h

theorem seenOf_lt {seen : List Nat} {c : List Instr} {b : Nat} (hs : ∀ r ∈ seen, r < b)
    (hd : ∀ d ∈ defs c, d < b) : ∀ r ∈ seenOf seen c, r < b :=
  fun r hr => (seenOf_sub_defs c seen r hr).elim (hs r) (hd r)

theorem seenStep_mono {ins : Instr} (hl : labelOf ins = none) {seen : List Nat} {r : Nat} (h : r ∈ seen) :
    r ∈ seenStep seen ins := by
  unfold seenStep
  split
  · cases hl
  · split
    · exact List.mem_cons_of_mem _ h
    · exact h

theorem seenStep_def {ins : Instr} (hl : labelOf ins = none) {seen : List Nat} {d : Nat} (h : defOf ins = some d) :
    d ∈ seenStep seen ins := by
  unfold seenStep
  split
  · cases hl
  · rw [h]; exact List.mem_cons_self

theorem seenOf_mono : ∀ {c : List Instr}, NoLabels c → ∀ {seen : List Nat} {r : Nat}, r ∈ seen → r ∈ seenOf seen c
  | [], _, _, _, h => h
  | ins :: rest, hn, seen, r, h => by
    simp only [seenOf]
    exact seenOf_mono (c := rest) (fun i hi => hn i (List.mem_cons_of_mem _ hi))
      (seenStep_mono (hn ins List.mem_cons_self) h)

theorem defs_sub_seenOf : ∀ {c : List Instr}, NoLabels c → ∀ {seen : List Nat} {r : Nat}, r ∈ defs c → r ∈ seenOf seen c
  | [], _, _, _, h => by simp [defs] at h
  | ins :: rest, hn, seen, r, h => by
    have hrest : NoLabels rest := fun i hi => hn i (List.mem_cons_of_mem _ hi)
    simp only [seenOf]
    cases hd : defOf ins with
    | none =>
      rw [defs_cons, hd] at h
      exact defs_sub_seenOf hrest h
    | some d =>
      rw [defs_cons, hd] at h
      rcases List.mem_cons.1 h with rfl | h
      · exact seenOf_mono hrest (seenStep_def (hn ins List.mem_cons_self) hd)
      · exact defs_sub_seenOf hrest h

theorem defs_mem_left {a b : List Instr} {r : Nat} (h : r ∈ defs a) : r ∈ defs (a ++ b) := by
  rw [defs_append]; exact List.mem_append_left _ h

theorem defs_mem_right {a b : List Instr} {r : Nat} (h : r ∈ defs b) : r ∈ defs (a ++ b) := by
  rw [defs_append]; exact List.mem_append_right _ h

theorem mem_defs_singleton {ins : Instr} {d : Nat} : d ∈ defs [ins] ↔ defOf ins = some d := by
  simp [defs]

theorem nodup_defs_singleton (ins : Instr) : (defs [ins]).Nodup := by
  cases h : defOf ins <;> simp [defs, h]

theorem opdsRefs_append (a b : List Opd) : opdsRefs (a ++ b) = opdsRefs a ++ opdsRefs b := by
  induction a with
  | nil => rfl
  | cons x xs ih => simp [opdsRefs, ih, List.append_assoc]

theorem opdsRefs_mem {o : Opd} {r : Nat} : ∀ {os : List Opd}, o ∈ os → r ∈ opdRefs o → r ∈ opdsRefs os
  | _ :: _, ho, hr => by
    rcases List.mem_cons.1 ho with rfl | ho
    · exact List.mem_append_left _ hr
    · exact List.mem_append_right _ (opdsRefs_mem ho hr)

structure SLocal (k : Nat) (c : List Instr) (k' : Nat) : Prop where
  le : k ≤ k'
  defsIn : ∀ d ∈ defs c, k ≤ d ∧ d < k'
  nodup : (defs c).Nodup
  loc : ∀ seen : List Nat, (∀ r ∈ seen, r < k) → blockLocal seen c = true

theorem SLocal.nil (k : Nat) : SLocal k [] k :=
  ⟨Nat.le_refl _, by simp [defs], by simp [defs], by intros; rfl⟩

theorem SLocal.mono {k k' : Nat} {c : List Instr} (h : SLocal k c k') {k0 k1 : Nat} (h0 : k0 ≤ k) (h1 : k' ≤ k1) :
    SLocal k0 c k1 :=
  ⟨by have := h.le; omega, fun d hd => by have := h.defsIn d hd; omega, h.nodup,
    fun seen hs => h.loc seen (fun r hr => by have := hs r hr; omega)⟩

theorem SLocal.seen_lt {k k' : Nat} {c : List Instr} (h : SLocal k c k') {seen : List Nat} (hs : ∀ r ∈ seen, r < k) :
    ∀ r ∈ seenOf seen c, r < k' :=
  seenOf_lt (fun r hr => by have := hs r hr; have := h.le; omega) (fun d hd => (h.defsIn d hd).2)

theorem SLocal.append {k k1 k2 : Nat} {a b : List Instr} (ha : SLocal k a k1) (hb : SLocal k1 b k2) :
    SLocal k (a ++ b) k2 := by
  have := ha.le; have := hb.le
  refine ⟨by omega, ?_, ?_, ?_⟩
  · intro d hd
    rw [defs_append, List.mem_append] at hd
    rcases hd with hd | hd
    · have := ha.defsIn d hd; omega
    · have := hb.defsIn d hd; omega
  · rw [defs_append]
    refine List.nodup_append.2 ⟨ha.nodup, hb.nodup, ?_⟩
    intro x hx y hy hxy
    have := ha.defsIn x hx; have := hb.defsIn y hy; omega
  · intro seen hs
    rw [blockLocal_append, ha.loc seen hs, Bool.true_and]
    exact hb.loc _ (ha.seen_lt hs)

theorem SLocal.label {k k' : Nat} (h : k ≤ k') (l : Nat) : SLocal k [.label l] k' :=
  have hd : defs [Instr.label l] = [] := rfl
  ⟨h, by simp [hd], by simp [hd], by intros; rfl⟩

theorem SLocal.snoc {k k1 k2 : Nat} {c : List Instr} {ins : Instr} (hc : SLocal k c k1) (hn : NoLabels c)
    (hl : labelOf ins = none) (hu : ∀ r ∈ usesOf ins, r ∈ defs c) (hd : ∀ d, defOf ins = some d → k1 ≤ d ∧ d < k2)
    (hle : k1 ≤ k2) : SLocal k (c ++ [ins]) k2 := by
  have := hc.le
  refine ⟨by omega, ?_, ?_, ?_⟩
  · intro d hd'
    rw [defs_append, List.mem_append] at hd'
    rcases hd' with hd' | hd'
    · have := hc.defsIn d hd'; omega
    · have := hd d (mem_defs_singleton.1 hd'); omega
  · rw [defs_append]
    refine List.nodup_append.2 ⟨hc.nodup, nodup_defs_singleton ins, fun x hx y hy hxy => ?_⟩
    have := hc.defsIn x hx; have := hd y (mem_defs_singleton.1 hy); omega
  · intro seen hs
    rw [blockLocal_append, hc.loc seen hs, Bool.true_and]
    refine blockLocal_single hl (fun r hr => defs_sub_seenOf hn (hu r hr)) ?_
    intro d hdi hmem
    have := hc.seen_lt hs d hmem
    have := hd d hdi; omega

theorem defs_snoc_def {c : List Instr} {ins : Instr} {d : Nat} (h : defOf ins = some d) : d ∈ defs (c ++ [ins]) :=
  defs_mem_right (mem_defs_singleton.2 h)

structure ELocal (k : Nat) (c : List Instr) (o : Opd) (k' : Nat) : Prop where
  sl : SLocal k c k'
  noLab : NoLabels c
  opd : ∀ r ∈ opdRefs o, r ∈ defs c

structure PLocal (k0 : Nat) (c : List Instr) (k : Nat) : Prop where
  sl : SLocal k0 c k
  noLab : NoLabels c

theorem PLocal.nil (k : Nat) : PLocal k [] k := ⟨SLocal.nil k, All.nil⟩

theorem ELocal.pl {k k' : Nat} {c : List Instr} {o : Opd} (h : ELocal k c o k') : PLocal k c k' := ⟨h.sl, h.noLab⟩

theorem PLocal.elocal {k0 k : Nat} {c : List Instr} {o : Opd} (h : PLocal k0 c k) (ho : ∀ r ∈ opdRefs o, r ∈ defs c) :
    ELocal k0 c o k := ⟨h.sl, h.noLab, ho⟩

theorem PLocal.append {k0 k k' : Nat} {a b : List Instr} (ha : PLocal k0 a k) (hb : PLocal k b k') :
    PLocal k0 (a ++ b) k' := ⟨ha.sl.append hb.sl, All.append ha.noLab hb.noLab⟩

theorem PLocal.snocE {k0 k1 : Nat} {c : List Instr} {ins : Instr} (h : PLocal k0 c k1) (hl : labelOf ins = none)
    (hu : ∀ r ∈ usesOf ins, r ∈ defs c) (hd : defOf ins = some k1) : ELocal k0 (c ++ [ins]) (.ref k1) (k1 + 1) := by
  refine ⟨h.sl.snoc h.noLab hl hu (fun d hd' => ?_) (Nat.le_succ k1), All.snoc h.noLab hl, fun x hx => ?_⟩
  · obtain rfl : k1 = d := Option.some.inj (hd.symm.trans hd')
    omega
  · obtain rfl := List.mem_singleton.1 hx
    exact defs_snoc_def hd

theorem PLocal.snocUse {k0 k1 k2 : Nat} {c : List Instr} {ins : Instr} (h : PLocal k0 c k1) (hl : labelOf ins = none)
    (hu : ∀ r ∈ usesOf ins, r ∈ defs c) (hd : defOf ins = none) (hle : k1 ≤ k2) : PLocal k0 (c ++ [ins]) k2 :=
  ⟨h.sl.snoc h.noLab hl hu (by simp [hd]) hle, All.snoc h.noLab hl⟩

theorem ELocal.load (k : Nat) (ty : ITy) (sc : Scope) (key : VarKey) :
    ELocal k [.load k ty sc key] (.ref k) (k + 1) :=
  (PLocal.nil k).snocE (ins := .load k ty sc key) rfl (fun _ h => nomatch h) rfl

theorem labelOf_mkBin (dst : Nat) (op : BOp) (rty : ITy) (a : Opd) (ta : ITy) (b : Opd) (tb : ITy) :
    labelOf (mkBin dst op rty a ta b tb) = none :=
  forall_mkBin (P := (labelOf · = none)) (fun _ _ _ => rfl) ..

theorem mkBin_def (dst : Nat) (op : BOp) (rty : ITy) (a : Opd) (ta : ITy) (b : Opd) (tb : ITy) :
    defOf (mkBin dst op rty a ta b tb) = some dst :=
  forall_mkBin (P := (defOf · = some dst)) (fun _ _ _ => rfl) ..

theorem mkBin_uses {dst : Nat} {op : BOp} {rty : ITy} {a : Opd} {ta : ITy} {b : Opd} {tb : ITy} {r : Nat}
    (h : r ∈ usesOf (mkBin dst op rty a ta b tb)) : r ∈ opdRefs a ∨ r ∈ opdRefs b := by
  obtain ⟨o, e | e⟩ := mkBin_cases dst op rty a ta b tb <;> rw [e] at h
  · exact List.mem_append.1 h
  · exact (List.mem_append.1 h).symm

/-- `c0` is a label-free prefix that defines both operands. -/
theorem RowCode.local {op : BOp} {lt rt resT : ITy} {l r : Opd} {k0 k : Nat} {c0 : List Instr} (h0 : PLocal k0 c0 k)
    (hl : ∀ x ∈ opdRefs l, x ∈ defs c0) (hr : ∀ x ∈ opdRefs r, x ∈ defs c0) {code : List Instr} {rows : List Opd}
    {k' : Nat} (h : RowCode op lt rt resT l r k code rows k') :
    PLocal k0 (c0 ++ code) k' ∧ ∀ x ∈ opdsRefs rows, x ∈ defs (c0 ++ code) := by
  -- a row ends with the instruction that defines its operand `.ref d`
  have step : ∀ {c row rs d k1}, (∀ x ∈ opdsRefs rs, x ∈ defs (c0 ++ c)) → ELocal k0 (c0 ++ c ++ row) (.ref d) k1 →
      PLocal k0 (c0 ++ (c ++ row)) k1 ∧ ∀ x ∈ opdsRefs (rs ++ [.ref d]), x ∈ defs (c0 ++ (c ++ row)) := by
    intro c row rs d k1 q s
    rw [opdsRefs_append, ← List.append_assoc]
    exact ⟨s.pl, fun x hx => (List.mem_append.1 hx).elim (fun h => defs_mem_left (q x h))
      (fun h => s.opd x (by simpa [opdsRefs] using h))⟩
  induction h with
  | nil => exact ⟨by rwa [List.append_nil], fun _ h => nomatch h⟩
  | @mm c rs k1 n _ ih =>
    have s1 := ih.1.snocE (ins := .matGet k1 (rowType lt) l (.cInt n)) rfl
      (fun x hx => defs_mem_left (hl x (by simpa [usesOf, opdRefs] using hx))) rfl
    have s2 := s1.pl.snocE (ins := .matGet (k1 + 1) (rowType rt) r (.cInt n)) rfl
      (fun x hx => defs_mem_left (defs_mem_left (hr x (by simpa [usesOf, opdRefs] using hx)))) rfl
    have s3 := s2.pl.snocE
      (ins := mkBin (k1 + 2) op (rowType resT) (.ref k1) (rowType lt) (.ref (k1 + 1)) (rowType rt)) (labelOf_mkBin ..)
      (fun x hx => (mkBin_uses hx).elim (fun hx => defs_mem_left (s1.opd x hx)) (s2.opd x)) (mkBin_def ..)
    exact step ih.2 (by simpa only [List.append_assoc, List.cons_append, List.nil_append] using s3)
  | @ms c rs k1 n _ ih =>
    have s1 := ih.1.snocE (ins := .matGet k1 (rowType lt) l (.cInt n)) rfl
      (fun x hx => defs_mem_left (hl x (by simpa [usesOf, opdRefs] using hx))) rfl
    have s2 := s1.pl.snocE (ins := mkBin (k1 + 1) op (rowType resT) (.ref k1) (rowType lt) r rt) (labelOf_mkBin ..)
      (fun x hx => (mkBin_uses hx).elim (s1.opd x) (fun hx => defs_mem_left (defs_mem_left (hr x hx)))) (mkBin_def ..)
    exact step ih.2 (by simpa only [List.append_assoc, List.cons_append, List.nil_append] using s2)
  | @sm c rs k1 n _ ih =>
    have s1 := ih.1.snocE (ins := .matGet k1 (rowType rt) r (.cInt n)) rfl
      (fun x hx => defs_mem_left (hr x (by simpa [usesOf, opdRefs] using hx))) rfl
    have s2 := s1.pl.snocE (ins := mkBin (k1 + 1) op (rowType resT) l lt (.ref k1) (rowType rt)) (labelOf_mkBin ..)
      (fun x hx => (mkBin_uses hx).elim (fun hx => defs_mem_left (defs_mem_left (hl x hx))) (s1.opd x)) (mkBin_def ..)
    exact step ih.2 (by simpa only [List.append_assoc, List.cons_append, List.nil_append] using s2)

theorem binTail_local {op : BOp} {ty lt rt : ITy} {vl vr : Opd} {k0 k : Nat} {c0 ct : List Instr} {o : Opd} {k3 : Nat}
    (h0 : PLocal k0 c0 k) (hl : ∀ x ∈ opdRefs vl, x ∈ defs c0) (hr : ∀ x ∈ opdRefs vr, x ∈ defs c0)
    (h : binTail op ty lt rt vl vr k = (ct, o, k3)) : ELocal k0 (c0 ++ ct) o k3 := by
  refine binTail_elim (P := fun ct o k3 => ELocal k0 (c0 ++ ct) o k3) (fun o => ?_) ?_ (fun hrow => ?_) h
  · exact h0.snocE rfl (fun x hx => (List.mem_append.1 hx).elim (hl x) (hr x)) rfl
  · exact h0.snocE (labelOf_mkBin ..) (fun x hx => (mkBin_uses hx).elim (hl x) (hr x)) (mkBin_def ..)
  · obtain ⟨p, q⟩ := hrow.local h0 hl hr
    rw [← List.append_assoc]
    exact p.snocE rfl q rfl

theorem opds2_defined {k k1 k2 : Nat} {cl cr : List Instr} {vl vr : Opd} (il : ELocal k cl vl k1) (ir : ELocal k1 cr vr k2) :
    ∀ x ∈ opdRefs vl ++ opdRefs vr, x ∈ defs (cl ++ cr) :=
  fun x hx => (List.mem_append.1 hx).elim (fun h => defs_mem_left (il.opd x h)) (fun h => defs_mem_right (ir.opd x h))

theorem opds3_defined {k k1 k2 : Nat} {c0 cb ci : List Instr} {vb vi v : Opd} (ib : ELocal k cb vb k1) (ii : ELocal k1 ci vi k2)
    (hv : ∀ r ∈ opdRefs v, r ∈ defs c0) : ∀ x ∈ opdRefs vb ++ opdRefs vi ++ opdRefs v, x ∈ defs (c0 ++ cb ++ ci) := by
  intro x hx
  rcases List.mem_append.1 hx with hx | hx
  · rw [List.append_assoc]
    exact defs_mem_right (opds2_defined ib ii x hx)
  · exact defs_mem_left (defs_mem_left (hv x hx))

/-- The code `cs` of a store target reads the stored operand `v`, which the label-free prefix `c0` before it defines, so
block-locality is stated for `c0 ++ cs`: nested targets `m[i][j] = …`, `v.zx = …` re-enter it with the prefix extended
by the `vecSet` / `matSet` / store-`shuffle` that defines the new stored operand. -/
structure TLocal (v : Opd) (k : Nat) (cs : List Instr) (k' : Nat) : Prop where
  noLab : NoLabels cs
  le : k ≤ k'
  ext : ∀ k0 c0, PLocal k0 c0 k → (∀ r ∈ opdRefs v, r ∈ defs c0) → PLocal k0 (c0 ++ cs) k'

theorem local_rules : Rules (fun _ k c o k' => ELocal k c o k')
    (fun _ k c os k' => PLocal k c k' ∧ ∀ r ∈ opdsRefs os, r ∈ defs c) (fun _ v k cs k' => TLocal v k cs k') where
  litI _ k := (PLocal.nil k).elocal (fun _ h => nomatch h)
  litF _ k := (PLocal.nil k).elocal (fun _ h => nomatch h)
  var sc key ty k := ELocal.load k ty sc key
  bin il ir ht := binTail_local (il.pl.append ir.pl) (fun x hx => defs_mem_left (il.opd x hx))
    (fun x hx => defs_mem_right (ir.opd x hx)) ht
  cast ie := ie.pl.snocE rfl ie.opd rfl
  assign ie is := (is.ext _ _ ie.pl ie.opd).elocal fun x hx => defs_mem_left (ie.opd x hx)
  affix := by
    intro post inc x k c v k1 cs k2 ie is
    have i1 := ie.pl.snocE (ins := .bin k1 (.s (if inc then .add else .sub)) (Expr.ty x) v (.cInt 1)) rfl
      (fun r hr => ie.opd r (by simpa [usesOf, opdRefs] using hr)) rfl
    refine (is.ext _ _ i1.pl i1.opd).elocal fun r hr => defs_mem_left ?_
    cases post
    · exact i1.opd r hr
    · exact defs_mem_left (ie.opd r hr)
  call ia := ia.1.snocE rfl ia.2 rfl
  index := by
    intro kind ty base idx k cb vb k1 ci vi k2 ib ii
    cases kind <;> exact (ib.pl.append ii.pl).snocE rfl (opds2_defined ib ii) rfl
  member ib := ib.pl.snocE rfl ib.opd rfl
  swizzle ib := ib.pl.snocE rfl (fun x hx => ib.opd x (by simpa [usesOf] using hx)) rfl
  construct ia := ia.1.snocE rfl ia.2 rfl
  nil k := ⟨PLocal.nil k, fun _ h => nomatch h⟩
  cons ie ir := ⟨ie.pl.append ir.1, fun x hx =>
    (List.mem_append.1 hx).elim (fun h => defs_mem_left (ie.opd x h)) (fun h => defs_mem_right (ir.2 x h))⟩
  storeVar sc key ty v k := ⟨All.one rfl, Nat.le_succ k, fun k0 c0 h0 hv => h0.snocUse rfl hv rfl (Nat.le_succ k)⟩
  storeArr ib ii := by
    have := ib.sl.le; have := ii.sl.le
    refine ⟨All.snoc (All.append ib.noLab ii.noLab) rfl, by omega, fun k0 c0 h0 hv => ?_⟩
    rw [← List.append_assoc, ← List.append_assoc]
    exact ((h0.append ib.pl).append ii.pl).snocUse rfl (opds3_defined ib ii hv) rfl (Nat.le_succ _)
  storeVec := by
    intro ty base idx v k cb vb k1 ci vi k2 cs k3 ib ii is
    have := ib.sl.le; have := ii.sl.le; have := is.le
    refine ⟨All.append (All.snoc (All.append ib.noLab ii.noLab) rfl) is.noLab, by omega, fun k0 c0 h0 hv => ?_⟩
    have p3 := ((h0.append ib.pl).append ii.pl).snocE (ins := .vecSet k2 ty vb vi v) rfl (opds3_defined ib ii hv) rfl
    simpa only [List.append_assoc] using is.ext _ _ p3.pl p3.opd
  storeMat := by
    intro ty base idx v k cb vb k1 ci vi k2 cs k3 ib ii is
    have := ib.sl.le; have := ii.sl.le; have := is.le
    refine ⟨All.append (All.snoc (All.append ib.noLab ii.noLab) rfl) is.noLab, by omega, fun k0 c0 h0 hv => ?_⟩
    have p3 := ((h0.append ib.pl).append ii.pl).snocE (ins := .matSet k2 ty vb vi v) rfl (opds3_defined ib ii hv) rfl
    simpa only [List.append_assoc] using is.ext _ _ p3.pl p3.opd
  storeMem ib := by
    refine ⟨All.snoc ib.noLab rfl, Nat.le_succ_of_le ib.sl.le, fun k0 c0 h0 hv => ?_⟩
    rw [← List.append_assoc]
    exact (h0.append ib.pl).snocUse rfl (fun x hx => (List.mem_append.1 hx).elim
      (fun h => defs_mem_right (ib.opd x h)) (fun h => defs_mem_left (hv x h))) rfl (Nat.le_succ _)
  storeSwz := by
    intro ty base idxs v k cb vb k1 cs k2 ib is
    have := ib.sl.le; have := is.le
    refine ⟨All.append (All.snoc ib.noLab rfl) is.noLab, by omega, fun k0 c0 h0 hv => ?_⟩
    have p3 := (h0.append ib.pl).snocE
      (ins := .shuffle k1 (Expr.ty base) vb v (storeShuffleIdx (vecSize (Expr.ty base)) idxs)) rfl
      (fun x hx => (List.mem_append.1 hx).elim (fun h => defs_mem_right (ib.opd x h))
        (fun h => defs_mem_left (hv x h))) rfl
    simpa only [List.append_assoc] using is.ext _ _ p3.pl p3.opd
  storeOther _ ie := ⟨ie.noLab, ie.sl.le, fun _ _ h0 _ => h0.append ie.pl⟩

theorem lowerE_localG (e : Expr) (k : Nat) (c : List Instr) (o : Opd) (k' : Nat) (h : lowerE e k = (c, o, k')) :
    ELocal k c o k' :=
  local_rules.ofE h

theorem lowerArgs_localG (as : Args) (k : Nat) (c : List Instr) (os : List Opd) (k' : Nat)
    (h : lowerArgs as k = (c, os, k')) : PLocal k c k' ∧ ∀ r ∈ opdsRefs os, r ∈ defs c :=
  local_rules.ofArgs h

theorem lowerStore_local (e : Expr) (v : Opd) (k : Nat) (cs : List Instr) (k' : Nat) (h : lowerStore e v k = (cs, k')) :
    TLocal v k cs k' :=
  local_rules.ofStore h

theorem lowerStore_localG (e : Expr) (v : Opd) (k0 k : Nat) (c0 cs : List Instr) (k' : Nat) (h0 : PLocal k0 c0 k)
    (hv : ∀ r ∈ opdRefs v, r ∈ defs c0) (h : lowerStore e v k = (cs, k')) : PLocal k0 (c0 ++ cs) k' :=
  (lowerStore_local e v k cs k' h).ext k0 c0 h0 hv

theorem SLocal.leaf {k k' : Nat} {ins : Instr} (hl : labelOf ins = none) (hu : usesOf ins = [])
    (hd : ∀ d, defOf ins = some d → k ≤ d ∧ d < k') (hle : k ≤ k') : SLocal k [ins] k' :=
  (SLocal.nil k).snoc (ins := ins) All.nil hl (by simp [hu]) hd hle

theorem ELocal.use {k k1 k2 : Nat} {c : List Instr} {v : Opd} (he : ELocal k c v k1) {ins : Instr}
    (hl : labelOf ins = none) (hu : usesOf ins = opdRefs v) (hd : defOf ins = none) (hle : k1 ≤ k2) :
    SLocal k (c ++ [ins]) k2 :=
  he.sl.snoc he.noLab hl (by rw [hu]; exact he.opd) (by simp [hd]) hle

theorem SLocal.br (k l : Nat) : SLocal k [.br l] k :=
  SLocal.leaf rfl rfl (fun _ h => nomatch h) (Nat.le_refl k)

/-- The statement forms write `c ++ [ins, .label l]`. -/
theorem SLocal.thenLabel {k k1 k2 : Nat} {c : List Instr} {ins : Instr} (h : SLocal k (c ++ [ins]) k1) (hle : k1 ≤ k2)
    (l : Nat) : SLocal k (c ++ [ins, .label l]) k2 := by
  rw [List.append_cons c ins]
  exact h.append (SLocal.label hle l)

theorem lowerOptE_localG {oe : Option Expr} {k : Nat} {c : List Instr} {o : Option Opd} {k' : Nat}
    (h : lowerOptE oe k = (c, o, k')) : SLocal k c k' :=
  lowerOptE_elim (Q := fun c _ k' => SLocal k c k') h (fun _ => SLocal.nil k) fun _ _ _ he => (local_rules.ofE he).sl

theorem forCond_localG {oe : Option Expr} {k : Nat} {c : List Instr} {o : Option Opd} {k' : Nat} (a b : Nat)
    (h : lowerOptE oe k = (c, o, k')) : SLocal k (c ++ [forBranch o a b]) k' :=
  lowerOptE_elim (Q := fun c o k' => SLocal k (c ++ [forBranch o a b]) k') h (fun _ => SLocal.br k a)
    fun _ _ _ he => (local_rules.ofE he).use (ins := .brc _ a b) rfl rfl rfl (Nat.le_refl _)

/-- The condition `cc` is followed by the branch that reads its operand (`ELocal.use`); where code stands before `cc`,
the production's `p ++ cc ++ [branch, …]` is first read as `p ++ (cc ++ [branch, …])`. -/
theorem slocal_rules : SRules (fun _ _ _ k c k' => SLocal k c k') where
  skip _ _ k := SLocal.nil k
  declNone _ _ _ _ k := SLocal.leaf rfl rfl (fun _ h => by cases h; omega) (Nat.le_succ k)
  declInit _ _ name ty := fun {e k c v k1} he => by
    have ie := local_rules.ofE he
    have h1 : SLocal k [Instr.newVar k ty name] (k + 1) := SLocal.leaf rfl rfl (fun _ h => by cases h; omega) (Nat.le_succ k)
    exact (h1.append ie.sl).snoc (ins := .store .local (.name name) v) (All.cons rfl ie.noLab) rfl
      (fun r hr => defs_mem_right (ie.opd r hr)) (fun _ h => nomatch h) (Nat.le_succ k1)
  expr _ _ := fun he => (local_rules.ofE he).sl
  seq ia ib := ia.append ib
  ite1 := by
    intro brk cont c t k cc v k1 ct k2 hc it
    have ic := (local_rules.ofE hc).use (ins := .brc v k1 (k1 + 1)) rfl rfl rfl (Nat.le_refl _)
    exact ((ic.thenLabel (by omega) k1).append it).append (SLocal.label (Nat.le_refl k2) (k1 + 1))
  ite2 := by
    intro brk cont c t e k cc v k1 ct k2 ce k3 hc it ie
    have ic := (local_rules.ofE hc).use (ins := .brc v k1 (k1 + 1)) rfl rfl rfl (Nat.le_refl _)
    exact ((((((ic.thenLabel (by omega) k1).append it).append (SLocal.br k2 (k1 + 2))).thenLabel (Nat.le_refl k2)
      (k1 + 1)).append ie).append (SLocal.label (Nat.le_refl k3) (k1 + 2)))
  whileL := by
    intro brk cont c body k cc v k1 cb k2 hc ib
    have ic := (local_rules.ofE hc).use (ins := .brc v (k + 1) (k + 2)) rfl rfl rfl (Nat.le_refl _)
    rw [List.append_assoc _ cc]
    exact ((((SLocal.label (by omega : k ≤ k + 3) k).append (ic.thenLabel (Nat.le_refl k1) (k + 1))).append ib).append
      (SLocal.br k2 k)).thenLabel (Nat.le_refl k2) (k + 2)
  doL := by
    intro brk cont body c k cb k1 cc v k2 ib hc
    have ic := (local_rules.ofE hc).use (ins := .brc v k (k + 2)) rfl rfl rfl (Nat.le_refl _)
    rw [List.append_assoc _ cc]
    exact (((SLocal.label (by omega : k ≤ k + 3) k).append ib).append (SLocal.label (Nat.le_refl k1) (k + 1))).append
      (ic.thenLabel (Nat.le_refl k2) (k + 2))
  forL := by
    intro brk cont init c next body k ci k0 cc v k1 cb k2 cn vn k3 ii hc ib hn
    rw [List.append_assoc _ cc]
    exact ((((((ii.append (SLocal.label (by omega : k0 ≤ k0 + 4) k0)).append
      ((forCond_localG (k0 + 1) (k0 + 3) hc).thenLabel (Nat.le_refl k1) (k0 + 1))).append ib).append
      (SLocal.label (Nat.le_refl k2) (k0 + 2))).append (lowerOptE_localG hn)).append (SLocal.br k3 k0)).thenLabel
      (Nat.le_refl k3) (k0 + 3)
  brk _ _ k := SLocal.leaf rfl rfl (fun _ h => nomatch h) (Nat.le_succ k)
  cont _ _ k := SLocal.leaf rfl rfl (fun _ h => nomatch h) (Nat.le_succ k)
  retNone _ _ k := SLocal.leaf rfl rfl (fun _ h => nomatch h) (Nat.le_succ k)
  retSome _ _ := fun he => (local_rules.ofE he).use rfl rfl rfl (Nat.le_succ _)

theorem lowerFn_blockLocal_general (f : FnDef) : blockLocal [] (lowerFn f).code = true :=
  (slocal_rules.lowerS f.body none none 0).loc [] (fun _ h => nomatch h)

theorem lowerFn_defsDistinct_general (f : FnDef) : defsDistinct (lowerFn f).code = true :=
  nodup_defsDistinct (slocal_rules.lowerS f.body none none 0).nodup

/-! Under the predicates of the scalar and the storage core, which are not needed: argument lists, access chains
lowered for their alias (`placeRank Γ e = some d`), assignment targets. -/

theorem lowerArgs_local : ∀ (as : Args), okArgs as = true → ∀ (k : Nat) (c : List Instr) (os : List Opd) (k' : Nat),
      lowerArgs as k = (c, os, k') → SLocal k c k' ∧ NoLabels c ∧ ∀ r ∈ opdsRefs os, r ∈ defs c :=
  fun as _ k c os k' h => have ⟨p, q⟩ := lowerArgs_localG as k c os k' h; ⟨p.sl, p.noLab, q⟩

theorem lowerArgs_localS (Γ : Env) : ∀ (as : Args), okArgsS Γ as = true → ∀ (k : Nat) (c : List Instr)
      (os : List Opd) (k' : Nat), lowerArgs as k = (c, os, k') →
      SLocal k c k' ∧ NoLabels c ∧ ∀ r ∈ opdsRefs os, r ∈ defs c :=
  fun as _ k c os k' h => have ⟨p, q⟩ := lowerArgs_localG as k c os k' h; ⟨p.sl, p.noLab, q⟩

theorem lowerP_local (Γ : Env) : ∀ (e : Expr) (d : Nat), placeRank Γ e = some d → ∀ (k : Nat) (c : List Instr)
      (o : Opd) (k' : Nat), lowerE e k = (c, o, k') → ELocal k c o k' :=
  fun e _ _ => lowerE_localG e

theorem lowerStore_localS (Γ : Env) : ∀ (e : Expr), isLhs e = true → okES Γ e = true → ∀ (v : Opd) (k0 k : Nat)
      (c0 cs : List Instr) (k' : Nat), SLocal k0 c0 k → NoLabels c0 → (∀ r ∈ opdRefs v, r ∈ defs c0) →
      lowerStore e v k = (cs, k') → SLocal k0 (c0 ++ cs) k' ∧ NoLabels (c0 ++ cs) :=
  fun e _ _ v k0 k c0 cs k' h0 n0 hv h => have p := lowerStore_localG e v k0 k c0 cs k' ⟨h0, n0⟩ hv h; ⟨p.sl, p.noLab⟩

end Lower
end Nsl
