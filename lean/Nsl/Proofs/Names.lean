import Nsl.Model.Names

/-! C12, stage 1: `check` (context chain) against `ok` (visible set) against `NoRedecl` (positions). -/

namespace Nsl.Names

open Spec

theorem visible_iff (ctx : Ctx) (x : String) : visible ctx x = true ↔ x ∈ ctx.flatten := by
  induction ctx with
  | nil => simp [visible]
  | cons c r ih => simp [visible, ih]

theorem visible_false_iff (ctx : Ctx) (x : String) : visible ctx x = false ↔ x ∉ ctx.flatten := by
  rw [← visible_iff]; simp

theorem ok_decl {V : List String} {x : String} : ok V (.decl x) = true ↔ x ∉ V := by
  simp [ok]

theorem ok_seq {V : List String} {a b : S} :
    ok V (.seq a b) = true ↔ ok V a = true ∧ ok (V ++ adds a) b = true := by
  simp [ok]

theorem ok_ite {V : List String} {t e : S} :
    ok V (.ite t e) = true ↔ ok V t = true ∧ ok (V ++ adds t) e = true := by
  simp [ok]

theorem ok_for {V : List String} {i : String} {b : S} :
    ok V (.forL (some i) b) = true ↔ i ∉ V ∧ ok (V ++ [i]) b = true := by
  simp [ok]

theorem append_subset_append {α} {V V' : List α} (h : V' ⊆ V) (A : List α) : V' ++ A ⊆ V ++ A :=
  List.append_subset.2 ⟨List.subset_append_of_subset_left _ h, List.subset_append_right _ _⟩

theorem ok_mono {s : S} {V V' : List String} (h : V' ⊆ V) : ok V s = true → ok V' s = true := by
  induction s generalizing V V' with
  | decl x => simp only [ok_decl]; exact fun hx hx' => hx (h hx')
  | use x => exact id
  | skip => exact id
  | seq a b iha ihb =>
    simp only [ok_seq]
    exact fun ⟨h1, h2⟩ => ⟨iha h h1, ihb (append_subset_append h _) h2⟩
  | block s ih => exact ih h
  | ite a b iha ihb =>
    simp only [ok_ite]
    exact fun ⟨h1, h2⟩ => ⟨iha h h1, ihb (append_subset_append h _) h2⟩
  | forL i b ih =>
    cases i with
    | none => exact ih h
    | some i =>
      simp only [ok_for]
      exact fun ⟨h1, h2⟩ => ⟨fun hx => h1 (h hx), ih (append_subset_append h _) h2⟩
  | whileL b ih => exact ih h
  | doL b ih => exact ih h

theorem ok_congr (s : S) (V V' : List String) (h : ∀ x, x ∈ V ↔ x ∈ V') : ok V s = ok V' s :=
  Bool.eq_iff_iff.mpr ⟨ok_mono fun x hx => (h x).mpr hx, ok_mono fun x hx => (h x).mp hx⟩

theorem ok_ite_else {V : List String} {t e : S} (h : ok V (.ite t e) = true) : ok V e = true :=
  ok_mono (List.subset_append_left ..) (ok_ite.1 h).2

theorem check_seq (ctx : Ctx) (a b : S) :
    check ctx (.seq a b) = (check ctx a).bind (check · b) := by
  rw [check]; cases check ctx a <;> rfl

theorem check_block (ctx : Ctx) (s : S) :
    check ctx (.block s) = (check ([] :: ctx) s).bind fun _ => some ctx := by
  rw [check]; cases check ([] :: ctx) s <;> rfl

theorem check_while (ctx : Ctx) (s : S) :
    check ctx (.whileL s) = (check ([] :: ctx) s).bind fun _ => some ctx := by
  rw [check]; cases check ([] :: ctx) s <;> rfl

theorem check_do (ctx : Ctx) (s : S) :
    check ctx (.doL s) = (check ([] :: ctx) s).bind fun _ => some ctx := by
  rw [check]; cases check ([] :: ctx) s <;> rfl

theorem check_for_none (ctx : Ctx) (b : S) :
    check ctx (.forL none b) = (check ([] :: ctx) b).bind fun _ => some ctx := by
  rw [check]; cases check ([] :: ctx) b <;> rfl

theorem check_ite (ctx : Ctx) (t e : S) :
    check ctx (.ite t e) =
      (check ([] :: ctx) t).bind fun c => (check c e).bind fun _ => some ctx := by
  rw [check]
  cases check ([] :: ctx) t with
  | none => rfl
  | some c => cases h : check c e <;> simp [h]

theorem check_for_some (ctx : Ctx) (i : String) (b : S) :
    check ctx (.forL (some i) b) =
      (add ([] :: ctx) i).bind fun c => (check c b).bind fun _ => some ctx := by
  rw [check]
  cases add ([] :: ctx) i with
  | none => rfl
  | some c => cases h : check c b <;> simp [h]

theorem addAll_cons (ctx : Ctx) (x : String) (xs : List String) :
    addAll ctx (x :: xs) = (add ctx x).bind (addAll · xs) := by
  rw [addAll]; cases add ctx x <;> rfl

theorem check_opens {ctx : Ctx} {s : S} (hs : opensScope s = true) (h : (check ctx s).isSome = true) :
    check ctx s = some ctx := by
  -- every scope opener ends in `… |>.bind fun _ => some ctx`
  have key : ∀ o : Option Ctx, (o.bind fun _ => some ctx).isSome = true →
      (o.bind fun _ => some ctx) = some ctx := by
    rintro (_ | _) h
    · cases h
    · rfl
  cases s with
  | block s => rw [check_block] at h ⊢; exact key _ h
  | whileL s => rw [check_while] at h ⊢; exact key _ h
  | doL s => rw [check_do] at h ⊢; exact key _ h
  | ite t e =>
    rw [check_ite] at h ⊢
    cases hc : check ([] :: ctx) t with
    | none => rw [hc] at h; cases h
    | some c => rw [hc] at h; exact key _ h
  | forL i b =>
    cases i with
    | none => rw [check_for_none] at h ⊢; exact key _ h
    | some i =>
      rw [check_for_some] at h ⊢
      cases hc : add ([] :: ctx) i with
      | none => rw [hc] at h; cases h
      | some c => rw [hc] at h; exact key _ h
  | _ => cases hs

theorem add_isSome (ctx : Ctx) (x : String) : (add ctx x).isSome = !visible ctx x := by
  unfold add; cases visible ctx x <;> cases ctx <;> rfl

theorem bind_ite_some {α β} {p : Prop} [Decidable p] (x : α) (f : α → Option β) :
    (if p then some x else none).bind f = if p then f x else none := by split <;> rfl

theorem ite_and_some {α} (p q : Bool) (x : α) :
    (if p = true then (if q = true then some x else none) else none) =
      if (p && q) = true then some x else none := by
  cases p <;> rfl

theorem add_eq (c : List String) (r : Ctx) (x : String) :
    add (c :: r) x = if x ∈ (c :: r).flatten then none else some ((x :: c) :: r) := by
  simp only [add, visible_iff]

theorem add_of {V c : List String} {r : Ctx} (hV : ∀ x, x ∈ V ↔ x ∈ (c :: r).flatten)
    (x : String) :
    add (c :: r) x = if (!V.contains x) = true then some ((x :: c) :: r) else none := by
  simp only [add_eq, ← hV, Bool.not_eq_true', List.contains_eq_mem, decide_eq_false_iff_not,
    ite_not]

/-- For the chain `[] :: c :: r` of a fresh scope, `hV` is the one for `c :: r`, by unfolding. -/
theorem same_push {V c : List String} {r : Ctx} (hV : ∀ x, x ∈ V ↔ x ∈ (c :: r).flatten)
    (A : List String) : ∀ x, x ∈ V ++ A ↔ x ∈ ((A.reverse ++ c) :: r).flatten := by
  intro x
  rw [List.mem_append, hV]
  simp only [List.flatten_cons, List.mem_append, List.mem_reverse]
  rw [or_right_comm, or_comm (a := x ∈ c)]

theorem check_eq (s : S) : ∀ (V : List String) (c : List String) (r : Ctx),
    (∀ x, x ∈ V ↔ x ∈ (c :: r).flatten) →
    check (c :: r) s = if ok V s = true then some (((adds s).reverse ++ c) :: r) else none := by
  induction s with
  | decl x => intro V c r hV; rw [check, add_of hV]; rfl
  | use x => intro V c r _; rfl
  | skip => intro V c r _; rfl
  | seq a b iha ihb =>
    intro V c r hV
    rw [check_seq, iha V c r hV, bind_ite_some, ihb _ _ r (same_push hV _), ite_and_some]
    simp only [ok, adds, List.reverse_append, List.append_assoc]
  | block s ih =>
    intro V c r hV
    rw [check_block, ih V [] (c :: r) hV, bind_ite_some]; rfl
  | ite a b iha ihb =>
    intro V c r hV
    rw [check_ite, iha V [] (c :: r) hV, bind_ite_some,
      ihb _ _ (c :: r) (same_push (c := []) hV _), bind_ite_some, ite_and_some]; rfl
  | forL i b ih =>
    intro V c r hV
    cases i with
    | none => rw [check_for_none, ih V [] (c :: r) hV, bind_ite_some]; rfl
    | some i =>
      rw [check_for_some, add_of (c := []) hV, bind_ite_some,
        ih (V ++ [i]) [i] (c :: r) (same_push (c := []) hV [i]), bind_ite_some, ite_and_some]; rfl
  | whileL b ih =>
    intro V c r hV
    rw [check_while, ih V [] (c :: r) hV, bind_ite_some]; rfl
  | doL b ih =>
    intro V c r hV
    rw [check_do, ih V [] (c :: r) hV, bind_ite_some]; rfl

theorem check_some (s : S) (V c r) (hV : ∀ x, x ∈ V ↔ x ∈ (c :: r : Ctx).flatten) (ctx' : Ctx) :
    check (c :: r) s = some ctx' ↔ ok V s = true ∧ ctx' = ((adds s).reverse ++ c) :: r := by
  rw [check_eq s V c r hV]
  split <;> simp [*, eq_comm]

theorem addAll_eq (xs : List String) : ∀ {V c : List String} {r : Ctx},
    (∀ x, x ∈ V ↔ x ∈ (c :: r).flatten) → V.Nodup →
    addAll (c :: r) xs = if (V ++ xs).Nodup then some ((xs.reverse ++ c) :: r) else none := by
  induction xs with
  | nil => intro V c r _ hn; rw [List.append_nil, if_pos hn]; rfl
  | cons x xs ih =>
    intro V c r hV hn
    rw [addAll_cons, add_of hV, bind_ite_some]
    have hnd : (V ++ x :: xs).Nodup ↔ x ∉ V ∧ (V ++ [x] ++ xs).Nodup := by
      rw [List.append_assoc, List.singleton_append, and_iff_right_of_imp]
      exact fun h hx => (List.nodup_append.1 h).2.2 x hx x (List.mem_cons_self ..) rfl
    by_cases hx : x ∈ V
    · rw [if_neg (by simpa using hx), if_neg (fun h => (hnd.1 h).1 hx)]
    · have hn' : (V ++ [x]).Nodup := List.nodup_append.2
        ⟨hn, List.pairwise_singleton _ _,
          fun a ha b hb h => hx (by cases List.mem_singleton.1 hb; exact h ▸ ha)⟩
      rw [if_pos (by simpa using hx), ih (c := x :: c) (same_push hV [x]) hn']
      simp only [hnd, hx, not_false_eq_true, true_and, List.reverse_cons, List.append_assoc]; rfl

theorem checkFn_eq {G : List String} {root : Ctx}
    (hG : ∀ x, x ∈ G ↔ x ∈ (([] : List String) :: root).flatten) (hn : G.Nodup) (f : Fn) :
    checkFn root f = (decide (G ++ f.params).Nodup && ok (G ++ f.params) f.body) := by
  rw [checkFn, addAll_eq f.params hG hn]
  by_cases h : (G ++ f.params).Nodup
  · simp only [if_pos h, decide_eq_true h, Bool.true_and,
      check_eq (.block f.body) _ _ _ (same_push hG f.params)]
    show Option.isSome (if ok _ f.body = true then _ else _) = _
    cases ok (G ++ f.params) f.body <;> rfl
  · simp only [if_neg h, decide_eq_false h, Bool.false_and]

theorem checkMod_eq_okMod (m : Mod) : checkMod m = okMod m := by
  rw [checkMod, okMod, addAll_eq m.globals (V := []) (fun x => by simp) .nil, List.nil_append]
  by_cases h : m.globals.Nodup
  · simp only [if_pos h, decide_eq_true h, Bool.true_and]
    exact congrArg _ (funext (checkFn_eq (fun x => by simp) h))
  · simp only [if_neg h, decide_eq_false h, Bool.false_and]

theorem ok_subAt {s s' : S} {p : List Dir} {V : List String} (h : ok V s = true)
    (hs : subAt s p = some s') : ok (visibleAt V s p) s' = true := by
  fun_induction subAt s p generalizing V with
  | case1 s => cases hs; rw [visibleAt]; exact h
  | case2 a b p ih => exact ih (ok_seq.1 h).1 hs
  | case3 a b p ih => exact ih (ok_seq.1 h).2 hs
  | case4 s p ih => exact ih h hs
  | case5 t e p ih => exact ih (ok_ite.1 h).1 hs
  | case6 t e p ih => exact ih (ok_ite.1 h).2 hs
  | case7 i b p ih =>
    cases i with
    | none => exact ih (by rw [Option.toList, List.append_nil]; exact h) hs
    | some i => exact ih (ok_for.1 h).2 hs
  | case8 b p ih => exact ih h hs
  | case9 b p ih => exact ih h hs
  | case10 => cases hs

theorem ok_declares {s : S} {V : List String} {x : String} (h : ok V s = true)
    (hd : declares s = some x) : x ∉ V := by
  cases s with
  | decl y => cases hd; exact ok_decl.1 h
  | forL i b =>
    cases i with
    | none => cases hd
    | some i => cases hd; exact (ok_for.1 h).1
  | _ => cases hd

theorem ok_iff_NoRedecl (s : S) : ∀ V, ok V s = true ↔ NoRedecl V s := by
  refine fun V => ⟨fun h p s' x hs hd => ok_declares (ok_subAt h hs) hd, ?_⟩
  -- conversely `NoRedecl` of a statement restricts to its parts: prefix the path
  induction s generalizing V with
  | decl x => exact fun h => ok_decl.2 (h [] _ x rfl rfl)
  | use x => exact fun _ => rfl
  | skip => exact fun _ => rfl
  | seq a b iha ihb =>
    exact fun h => ok_seq.2 ⟨iha _ fun p => h (.seqL :: p), ihb _ fun p => h (.seqR :: p)⟩
  | block s ih => exact fun h => ih _ fun p => h (.blk :: p)
  | ite t e iht ihe =>
    exact fun h => ok_ite.2 ⟨iht _ fun p => h (.iteT :: p), ihe _ fun p => h (.iteE :: p)⟩
  | forL i b ih =>
    cases i with
    | none =>
      intro h
      have := ih (V ++ none.toList) fun p => h (.forB :: p)
      rwa [Option.toList, List.append_nil] at this
    | some i => exact fun h => ok_for.2 ⟨h [] _ i rfl rfl, ih _ fun p => h (.forB :: p)⟩
  | whileL b ih => exact fun h => ih _ fun p => h (.whileB :: p)
  | doL b ih => exact fun h => ih _ fun p => h (.doB :: p)

theorem okMod_iff (m : Mod) : okMod m = true ↔ NoVisibleRedecl m := by
  simp only [okMod, Bool.and_eq_true, decide_eq_true_eq, List.all_eq_true, ok_iff_NoRedecl,
    NoVisibleRedecl]

instance (m : Mod) : Decidable (Spec.NoVisibleRedecl m) :=
  decidable_of_iff _ (okMod_iff m)

end Nsl.Names
