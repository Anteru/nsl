import Nsl.Proofs.VecOps
import Nsl.Props.C04
/-!
# Typing of element access, swizzles and constructors; the store shuffle computes `swizzleStore`

The last part rests on the opcode-level theorem about `storeShuffleIdx` (`pick_store`, with its specification
`swizzleWriteSpec`), hence the import of `Props/C04`.
-/
namespace Nsl
namespace Vec
open Core VM CoreSem Lower Sim

theorem getKey_list {vs : List Val} {k : Nat} {x : Val} (h : getKey (.list vs) (.idx k) = .ok x) : x ∈ vs :=
  List.mem_of_getElem? (getKey_idx_iff.1 h)

theorem getKey_vec {n : Nat} {b : Val} {k : Nat} {x : Val} (hb : fits (.vec n) b = true)
    (h : getKey b (.idx k) = .ok x) : isAtom x = true := by
  obtain ⟨vs, rfl, _, ha⟩ := fits_vec_inv hb
  exact ha x (getKey_list h)

theorem getKey_mat {r c : Nat} {b : Val} {k : Nat} {x : Val} (hb : fits (.mat r c) b = true)
    (h : getKey b (.idx k) = .ok x) : fitsVec c x = true := by
  obtain ⟨vs, rfl, _, ha⟩ := fits_mat_inv hb
  exact ha x (getKey_list h)

theorem setKey_list {vs : List Val} {k : Nat} {x b' : Val} (h : setKey (.list vs) (.idx k) x = .ok b') :
    b' = .list (vs.set k x) :=
  (setKey_idx_iff.1 h).2

theorem setKey_vec {n : Nat} {b : Val} {k : Nat} {x b' : Val} (hb : fits (.vec n) b = true) (hx : isAtom x = true)
    (h : setKey b (.idx k) x = .ok b') : fits (.vec n) b' = true := by
  obtain ⟨vs, rfl, hl, ha⟩ := fits_vec_inv hb
  rw [setKey_list h]
  refine fits_vec_mk (by simpa using hl) ?_
  intro y hy
  rcases List.mem_or_eq_of_mem_set hy with hy | rfl
  · exact ha y hy
  · exact hx

theorem setKey_mat {r c : Nat} {b : Val} {k : Nat} {x b' : Val} (hb : fits (.mat r c) b = true)
    (hx : fitsVec c x = true) (h : setKey b (.idx k) x = .ok b') : fits (.mat r c) b' = true := by
  obtain ⟨vs, rfl, hl, ha⟩ := fits_mat_inv hb
  rw [setKey_list h]
  refine fits_mat_mk (by simpa using hl) ?_
  intro y hy
  rcases List.mem_or_eq_of_mem_set hy with hy | rfl
  · exact ha y hy
  · exact hx

/-- The step of `pick`: component `i` of `combined`. -/
def pickAt (combined : List Val) (i : Nat) : Except Err Val :=
  match combined[i]? with
  | some x => .ok x
  | none => .error (.internal "shuffle-index")

theorem pick_typed (combined : List Val) (idx : List Nat) (r : List Val) (h : shuffleExec.pick combined idx = .ok r) :
    r.length = idx.length ∧ ∀ x ∈ r, x ∈ combined := by
  refine mapE_all (mapE_get (f := shuffleExec.pick combined) (g := pickAt combined) rfl
    (fun i _ => by rw [shuffleExec.pick, pickAt]; cases combined[i]? <;> rfl) h) fun i _ x hx => ?_
  unfold pickAt at hx
  split at hx
  next hi => cases hx; exact List.mem_of_getElem? hi
  · cases hx

theorem shuffleExec_read_typed {ty : ITy} {n : Nat} {b v : Val} {idxs : List Nat} (hb : fits (.vec n) b = true)
    (hs : okSwz ty idxs = true) (h : shuffleExec ty b b idxs = .ok v) : fits (shape ty) v = true := by
  obtain ⟨xs, rfl, hl, ha⟩ := fits_vec_inv hb
  rw [shuffleExec_eq] at h
  obtain ⟨r, hp, h⟩ := bind_ok h
  obtain ⟨hrl, hrm⟩ := pick_typed _ _ _ hp
  have hra : ∀ x ∈ r, isAtom x = true := fun x hx => (List.mem_append.1 (hrm x hx)).elim (ha x) (ha x)
  cases ty with
  | sc s =>
    simp only [okSwz, beq_iff_eq] at hs
    match r, hs ▸ hrl, hra, h with
    | [x], _, hra, h => cases h; exact hra _ (List.mem_singleton.2 rfl)
  | vec s m =>
    simp only [okSwz, beq_iff_eq] at hs
    cases h
    exact fits_vec_mk (hrl.trans hs) hra
  | mat s r c => cases hs
  | arr e d => cases hs
  | struct nm f => cases hs
  | void => cases hs

/-! ## Swizzle writes: the store shuffle of the lowering computes `swizzleStore` -/

theorem swz_go_spec (ys : List Val) : ∀ (mask : List Nat) (acc : List Val) (i : Nat) (r : List Val),
    swizzleStore.go ys acc i mask = .ok r →
    r = swizzleWriteSpec acc mask (ys.drop i) ∧ mask.length ≤ ys.length - i
  | [], acc, i, r, h => by
    cases h
    exact ⟨by cases ys.drop i <;> rfl, Nat.zero_le _⟩
  | w :: ws, acc, i, r, h => by
    rw [swizzleStore.go] at h
    split at h
    next y hy =>
      split at h
      · obtain ⟨h1, h2⟩ := swz_go_spec ys ws _ (i + 1) r h
        obtain ⟨hi, rfl⟩ := List.getElem?_eq_some_iff.1 hy
        exact ⟨by rw [List.drop_eq_getElem_cons hi, swizzleWriteSpec]; exact h1, by simp only [List.length_cons]; omega⟩
      · cases h
    · cases h

theorem swizzleStore_list (xs : List Val) (mask : List Nat) (w : Val) :
    swizzleStore (.list xs) mask w = swizzleStore.go (flatOf w) xs 0 mask >>= fun r => .ok (.list r) := by
  show (match swizzleStore.go (flatOf w) xs 0 mask with
    | .error e => Except.error e | .ok r => Except.ok (Val.list r)) = _
  cases swizzleStore.go (flatOf w) xs 0 mask <;> rfl

theorem swizzleWriteSpec_mem (mask : List Nat) : ∀ (v es : List Val) (x : Val),
    x ∈ swizzleWriteSpec v mask es → x ∈ v ∨ x ∈ es := by
  induction mask with
  | nil => intro v es x h; simp [swizzleWriteSpec] at h; exact Or.inl h
  | cons a r ih =>
    intro v es x h
    cases es with
    | nil => simp [swizzleWriteSpec] at h; exact Or.inl h
    | cons e es' =>
      simp only [swizzleWriteSpec] at h
      rcases ih _ _ _ h with h | h
      · rcases List.mem_or_eq_of_mem_set h with h | rfl
        · exact Or.inl h
        · exact Or.inr (List.mem_cons_self ..)
      · exact Or.inr (List.mem_cons_of_mem _ h)

theorem flatOf_atom {v : Val} (h : isAtom v = true) : flatOf v = [v] := by
  cases v <;> first | rfl | cases h

/-- The store shuffle (`storeShuffleIdx` of the static size) yields what `swizzleStore` computes when the target
really has the static size. -/
theorem swizzleStore_shuffle {s : Sc} {n : Nat} {xs : List Val} {w b' : Val} {mask : List Nat} (hn : xs.length = n)
    (h : swizzleStore (.list xs) mask w = .ok b') :
    shuffleExec (.vec s n) (.list xs) w (storeShuffleIdx n mask) = .ok b' ∧
      ∃ r, b' = .list r ∧ r.length = n ∧ ∀ x ∈ r, x ∈ xs ∨ x ∈ flatOf w := by
  rw [swizzleStore_list] at h
  obtain ⟨r, hgo, rfl⟩ := wrap_ok h
  obtain ⟨rfl, hlen⟩ := swz_go_spec (flatOf w) mask xs 0 r hgo
  subst hn
  refine ⟨?_, _, rfl, swizzleWriteSpec_length .., fun x hx => swizzleWriteSpec_mem _ _ _ _ hx⟩
  rw [shuffleExec_vec, flatOf, pick_store xs (flatOf w) mask (by omega)]
  rfl

theorem swizzleStore_typed {n : Nat} {ty : ITy} {b w b' : Val} {mask : List Nat} (hb : fits (.vec n) b = true)
    (hw : fits (shape ty) w = true) (hs : okSwz ty mask = true) (hnd : mask.Nodup)
    (h : swizzleStore b mask w = .ok b') (s : Sc) :
    shuffleExec (.vec s n) b w (storeShuffleIdx n mask) = .ok b' ∧ fits (.vec n) b' = true := by
  obtain ⟨xs, rfl, hl, ha⟩ := fits_vec_inv hb
  obtain ⟨h1, r, rfl, hrl, hrm⟩ := swizzleStore_shuffle (s := s) hl h
  refine ⟨h1, fits_vec_mk hrl fun x hx => (hrm x hx).elim (ha x) fun hm => ?_⟩
  cases ty with
  | sc s' =>
    rw [shape, fits_atom] at hw
    rw [flatOf_atom hw] at hm
    cases List.mem_singleton.1 hm
    exact hw
  | vec s' m =>
    obtain ⟨ws, rfl, _, hwa⟩ := fits_vec_inv hw
    exact hwa x hm
  | mat s' r c => cases hs
  | arr e d => cases hs
  | struct nm f => cases hs
  | void => cases hs

/-- The values of an argument list have the shapes of the argument annotations. -/
def FitsArgs : Args → List Val → Prop
  | .nil, [] => True
  | .cons e rest, v :: vs => fits (shape (Expr.ty e)) v = true ∧ FitsArgs rest vs
  | _, _ => False

theorem flat_typed : ∀ (as : Args) (vs : List Val) (n : Nat), consSize as = some n → FitsArgs as vs →
    (constructExec.flat vs).length = n ∧ ∀ x ∈ constructExec.flat vs, isAtom x = true
  | .nil, [], n, h, _ => by cases h; exact ⟨rfl, fun _ hx => nomatch hx⟩
  | .nil, _ :: _, _, _, hf => by cases hf
  | .cons e rest, [], _, _, hf => by cases hf
  | .cons e rest, v :: vs, n, h, ⟨hv, hrest⟩ => by
    rw [flat_cons]
    unfold consSize at h
    split at h
    next m hsh hsz =>
      cases h
      obtain ⟨ihl, iha⟩ := flat_typed rest vs m hsz hrest
      rw [hsh, fits_atom] at hv
      rw [flatOf_atom hv]
      exact ⟨congrArg (· + 1) ihl, List.forall_mem_cons.2 ⟨hv, iha⟩⟩
    next k m hsh hsz =>
      cases h
      obtain ⟨ihl, iha⟩ := flat_typed rest vs m hsz hrest
      rw [hsh] at hv
      obtain ⟨ws, rfl, hwl, hwa⟩ := fits_vec_inv hv
      exact ⟨by rw [flatOf, List.length_append, ihl, hwl, Nat.add_comm],
        fun x hx => (List.mem_append.1 hx).elim (hwa x) (iha x)⟩
    · cases h

theorem rows_typed (c : Nat) : ∀ (as : Args) (vs : List Val), allRows c as = true → FitsArgs as vs →
    vs.length = argCount as ∧ ∀ x ∈ vs, fitsVec c x = true
  | .nil, [], _, _ => by simp [argCount]
  | .nil, _ :: _, _, hf => by cases hf
  | .cons e rest, [], _, hf => by cases hf
  | .cons e rest, v :: vs, h, hf => by
    obtain ⟨hv, hrest⟩ := hf
    simp only [allRows, Bool.and_eq_true, beq_iff_eq] at h
    obtain ⟨ihl, iha⟩ := rows_typed c rest vs h.2 hrest
    rw [h.1, fits_vec] at hv
    refine ⟨by simp [argCount, ihl], ?_⟩
    intro x hx
    rcases List.mem_cons.1 hx with rfl | hx
    · exact hv
    · exact iha x hx

theorem constructExec_typed {ty : ITy} {as : Args} {vs : List Val} {v : Val} (hok : okCons ty as = true)
    (hf : FitsArgs as vs) (h : constructExec ty vs = .ok v) : fits (shape ty) v = true := by
  cases ty with
  | vec s n =>
    cases h
    obtain ⟨hl, ha⟩ := flat_typed as vs n (beq_iff_eq.1 hok) hf
    exact fits_vec_mk hl ha
  | mat s r c =>
    simp only [okCons, Bool.and_eq_true, beq_iff_eq] at hok
    obtain ⟨hl, ha⟩ := rows_typed c as vs hok.1 hf
    rw [constructExec] at h
    split at h
    · cases h
      exact fits_mat_mk (hl.trans hok.2) ha
    · cases h
  | sc s =>
    match as, vs, hok, hf, h with
    | .cons e .nil, [x], hok, hf, h =>
      cases h
      have hx := hf.1
      rwa [beq_iff_eq.1 hok] at hx
    | .cons e .nil, [], _, hf, _ => cases hf
    | .cons e .nil, _ :: _ :: _, _, hf, _ => exact hf.2.elim
  | arr e d => cases hok
  | struct nm f => cases hok
  | void => cases hok

end Vec
end Nsl
