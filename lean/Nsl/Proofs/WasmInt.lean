import Nsl.Model.WasmRange
import Nsl.Proofs.WasmEval
/-!
# Signed-integer straight-line code incl. `/` and comparisons

The instance of `sim` for `intInstr`: every local has type `int`, so every operation is selected with the `_s`
suffix.  `selectOp_numOpFor` is stated for any type: `WasmUInt` uses it again.
-/
namespace Nsl.Wasm
open VM

theorem runR_zero (P : Program) (fn : Func) (pc : Nat) (fr : Frame) (g : Globals) :
    runR P 0 fn pc fr g = .fail .timeout := by
  rw [runR]

theorem runR_succ (P : Program) (fuel : Nat) (fn : Func) (pc : Nat) (fr : Frame) (g : Globals) :
    runR P (fuel + 1) fn pc fr g =
      match stepI (callD P fuel) fn.code pc fr g with
      | .next pc' fr' g' =>
        if frameS32 fr' then runR P fuel fn pc' fr' g' else .fail (.unsupported "outside-i32")
      | .ret v g' as => .done v g' as
      | .fail e => .fail e := by
  rw [runR]; rfl

theorem Reaches.of_runR {P : Program} {f : Func} {n pc fr g v g' as}
    (h : runR P n f pc fr g = .done v g' as) : Reaches (frameAll valS32) P f n pc fr g v g' as := by
  induction n generalizing pc fr g with
  | zero => rw [runR_zero] at h; cases h
  | succ n ih =>
    rw [runR_succ] at h
    split at h
    · rename_i hs
      split at h
      · rename_i hf; exact .next hs hf (ih h)
      · cases h
    · rename_i hs; cases h; exact .ret hs
    · cases h

theorem runR_run {P : Program} (fuel : Nat) {fn : Func} {pc : Nat} {fr : Frame} {g : Globals}
    {v : Val} {g' : Globals} {as : List Val} (h : runR P fuel fn pc fr g = .done v g' as) :
    run P fuel fn pc fr g = .done v g' as :=
  (Reaches.of_runR h).run

theorem toS_wrap {x : Int} (h : inS32 x) : toS (wrap x) = x := by
  unfold inS32 at h
  unfold toS wrap
  split <;> omega

/-- A truth value is `1` or `0` on both sides. -/
theorem boolV_ofBool {F : Type} {c c' : Bool} {z : Int} (hc : c' = c)
    (h : Val.ofBool c = .int z) : (boolV c' : WVal F) = .i32 (wrap z) := by
  subst hc
  cases c' <;> cases h <;> rfl

theorem div_overflow :
    scalarBin .div true (.int (-2147483648)) (.int (-1)) = .ok (.int 2147483648) := by
  simp [scalarBin, truncDiv]

theorem binop_agree_signed {F : Type} (O : F32Ops F) (op : SOp) (nop : NumOp) (x y z : Int)
    (hsel : numOpFor op .i32s = .ok nop) (hx : inS32 x) (hy : inS32 y)
    (hov : ¬ (op = .div ∧ x = -2147483648 ∧ y = -1))
    (hvm : scalarBin op true (.int x) (.int y) = .ok (.int z)) :
    evalNum O nop (.i32 (wrap x)) (.i32 (wrap y)) = some (.i32 (wrap z)) := by
  -- `toS` inverts `wrap` on the signed range
  have hxy : wrap x = wrap y ↔ x = y :=
    ⟨fun h => by rw [← toS_wrap hx, ← toS_wrap hy, h], fun h => h ▸ rfl⟩
  cases op with
  | add | sub | mul => exact binop_agree_ring O rfl hsel hvm
  | div =>
    cases hsel
    simp only [scalarBin, if_true] at hvm
    split at hvm <;> cases hvm
    rename_i hy0
    have h1 : ¬ wrap y = 0 := fun h => hy0 (by rw [← toS_wrap hy, h]; rfl)
    have h2 : ¬ (x = -2147483648 ∧ y = -1) := fun h => hov ⟨rfl, h⟩
    simp only [evalNum, toS_wrap hx, toS_wrap hy, if_neg h1, if_neg h2, truncDiv]
  | gt | lt =>
    cases hsel
    simp only [scalarBin, cmpInt, Except.ok.injEq] at hvm
    exact congrArg some (boolV_ofBool (by rw [toS_wrap hx, toS_wrap hy]) hvm)
  | eq =>
    cases hsel
    simp only [scalarBin, cmpInt, Except.ok.injEq] at hvm
    exact congrArg some (boolV_ofBool (decide_eq_decide.2 hxy) hvm)
  | _ => cases hsel

/-- A comparison takes the type of its first operand: a local, or a constant (typed `int`), hence `ha`. -/
theorem selectOp_numOpFor {ents : List Entry} {T : ITy} {ot : OT} {op : SOp} {a : Opd} {nop : NumOp}
    (hents : ∀ e ∈ ents, e.2 = T) (hot : otOfITy T = .ok ot)
    (ha : isSelCmp op = true → (∃ r, a = .ref r) ∨ (∃ c, a = .cInt c) ∧ T = .sc .int)
    (h : selectOp ents op T a = .ok nop) : numOpFor op ot = .ok nop := by
  obtain ⟨oty, ot', hty, hot', hnum⟩ := selectOp_ok h
  have : oty = T := by
    split at hty
    · rename_i hc
      rcases ha hc with ⟨r, rfl⟩ | ⟨⟨c, rfl⟩, rfl⟩
      · simp only [opdITy] at hty
        split at hty <;> cases hty
        rename_i hl
        exact hents _ (List.mem_of_getElem? (lookupRef_getElem hl))
      · cases hty; rfl
    · cases hty; rfl
  subst this
  rw [hot] at hot'
  cases hot'
  exact hnum

theorem isIntTy_eq {t : ITy} (h : isIntTy t = true) : t = .sc .int := by
  unfold isIntTy at h
  split at h
  · rfl
  · cases h

theorem ringOpd_cases {a : Opd} (h : ringOpd a = true) : (∃ r, a = .ref r) ∨ ∃ c, a = .cInt c := by
  cases a with
  | ref r => exact .inl ⟨r, rfl⟩
  | cInt c => exact .inr ⟨c, rfl⟩
  | cFlt _ => cases h

theorem intInstr_straight {i : Instr} (h : intInstr i = true) :
    Straight (· = .sc .int) (ringOpd · = true) (fun _ _ => True) i := by
  unfold intInstr at h
  split at h
  · exact .label
  · exact .load (isIntTy_eq h)
  · exact .store h
  · simp only [Bool.and_eq_true] at h
    exact .bin (isIntTy_eq h.1.1.2) h.1.2 h.2 trivial
  · exact .ret h
  · cases h

/-- `-2^31 / -1` cannot occur: its result `2^31` is outside the domain. -/
theorem opAgree_int {F : Type} (O : F32Ops F) {ents : List Entry} (hents : ∀ e ∈ ents, e.2 = .sc .int) :
    OpAgree O ents valS32 (· = .sc .int) (ringOpd · = true) (fun _ _ => True) where
  i32 := fun h => h ▸ rfl
  opd := id
  const := fun _ hr => decide_eq_true (by unfold inS32; omega)
  bin := by
    intro op ty a nop x y zv hT hA _ hx hy hsel hz hzv
    subst hT
    have hnop := selectOp_numOpFor hents rfl
      (fun _ => (ringOpd_cases hA).imp_right fun h => ⟨h, rfl⟩) hsel
    obtain ⟨z, rfl⟩ := scalarBin_int hz
    have hov : ¬ (op = .div ∧ x = -2147483648 ∧ y = -1) := by
      rintro ⟨rfl, rfl, rfl⟩
      rw [div_overflow] at hz
      cases hz
      cases hzv
    exact ⟨z, rfl, binop_agree_signed O op nop x y z hnop (of_decide_eq_true hx)
      (of_decide_eq_true hy) hov hz⟩

end Nsl.Wasm
