import Nsl.Proofs.IRTypeOps2
/-!
# IR typing: the run-time invariant and what it says about operands

`InvBody cx st fr g` relates the checker state `st` at a point inside a block to the VM state there: every typed
register holds a value of its static description, every local / parameter / global a tree of its declared type.
-/
namespace Nsl
namespace IRType
open VM

def GlobalsOK (gs : Map String ITy) (g : Globals) : Prop :=
  ∀ n T, Map.get gs n = some T → ∃ w, Map.get g n = some w ∧ valOK T w = true

def LocalsOK (locs : Locs) (fr : Frame) : Prop :=
  ∀ n T, Map.get locs n = some T → ∃ w, Map.get fr.locals n = some w ∧ valOK T w = true

def ArgsOK (ps : List (String × ITy)) (as : List Val) : Prop :=
  ∀ (i : Nat) (p : String × ITy), ps[i]? = some p → ∃ w, as[i]? = some w ∧ valOK p.2 w = true

structure VarsOK (cx : Ctx) (locs : Locs) (fr : Frame) (g : Globals) : Prop where
  locals : LocalsOK locs fr
  args : ArgsOK cx.params fr.args
  globals : GlobalsOK cx.P.globals g

def RegOK (cx : Ctx) (locs : Locs) (v : Val) : RI → Prop
  | .val t => valOK t v = true
  | .ptr t root => ∃ p T0, v = .ptr root p ∧ rootTy cx locs root = some T0 ∧ tyAt T0 p = some t
  | .stale => True

def RegsOK (cx : Ctx) (st : St) (fr : Frame) : Prop :=
  MapRel (fun ri v => RegOK cx st.locs v ri) st.regs fr.regs

structure InvBody (cx : Ctx) (st : St) (fr : Frame) (g : Globals) : Prop where
  live : st.dead = false
  regs : RegsOK cx st fr
  vars : VarsOK cx st.locs fr g

theorem GlobalsOK_iff_mapRel {gs : Map String ITy} {g : Globals} :
    GlobalsOK gs g ↔ MapRel (fun T w => valOK T w = true) gs g := Iff.rfl

theorem LocalsOK_iff_mapRel {locs : Locs} {fr : Frame} :
    LocalsOK locs fr ↔ MapRel (fun T w => valOK T w = true) locs fr.locals := Iff.rfl

theorem valsOK_args {ps : List (String × ITy)} {as : List Val} (h : valsOK (ps.map (·.2)) as = true) : ArgsOK ps as := by
  induction ps generalizing as with
  | nil => intro i p h; simp at h
  | cons p ps ih =>
    obtain ⟨a, as, rfl, ha, has⟩ := valsOK_cons h
    intro i q hq
    cases i with
    | zero => cases hq; exact ⟨a, rfl, ha⟩
    | succ j => exact ih has j q hq

theorem ArgsOK.set {ps : List (String × ITy)} {as : List Val} (h : ArgsOK ps as) {i : Nat} {p : String × ITy} {w : Val}
    (hp : ps[i]? = some p) (hw : valOK p.2 w = true) : i < as.length ∧ ArgsOK ps (as.set i w) := by
  obtain ⟨w0, hw0, _⟩ := h i p hp
  have hi : i < as.length := (List.getElem?_eq_some_iff.1 hw0).1
  refine ⟨hi, fun j q hq => ?_⟩
  by_cases hij : i = j
  · subst hij
    cases hp.symm.trans hq
    exact ⟨w, by rw [List.getElem?_set_self hi], hw⟩
  · rw [List.getElem?_set_ne hij]
    exact h j q hq

theorem vars_read {cx : Ctx} {locs : Locs} {fr : Frame} {g : Globals} (h : VarsOK cx locs fr g) {root : Root} {T : ITy}
    (hr : rootTy cx locs root = some T) : ∃ w, readRoot fr g root = .ok w ∧ valOK T w = true := by
  cases root with
  | loc n =>
    obtain ⟨w, hw, hwo⟩ := h.locals n T hr
    exact ⟨w, by simp only [readRoot, hw], hwo⟩
  | arg i =>
    obtain ⟨p, hp, rfl⟩ := Option.map_eq_some_iff.1 hr
    obtain ⟨w, hw, hwo⟩ := h.args i p hp
    exact ⟨w, by simp only [readRoot, hw], hwo⟩
  | glob n =>
    obtain ⟨w, hw, hwo⟩ := h.globals n T hr
    exact ⟨w, by simp only [readRoot, hw], hwo⟩

theorem vars_write {cx : Ctx} {locs : Locs} {fr : Frame} {g : Globals} (h : VarsOK cx locs fr g) {root : Root}
    {T : ITy} {w' : Val} (hr : rootTy cx locs root = some T) (hw' : valOK T w' = true) :
    ∃ fr' g', writeRoot fr g root w' = .ok (fr', g') ∧ VarsOK cx locs fr' g' ∧ fr'.regs = fr.regs := by
  cases root with
  | loc n =>
    exact ⟨{ fr with locals := Map.set fr.locals n w' }, g, rfl, ⟨LocalsOK_iff_mapRel.2 (MapRel.set_right
      (LocalsOK_iff_mapRel.1 h.locals) fun _ ha => Option.some.inj (hr.symm.trans ha) ▸ hw'), h.args, h.globals⟩, rfl⟩
  | arg i =>
    obtain ⟨p, hp, rfl⟩ := Option.map_eq_some_iff.1 hr
    obtain ⟨hi, hargs⟩ := h.args.set hp hw'
    exact ⟨{ fr with args := fr.args.set i w' }, g, by simp only [writeRoot, hi, if_true],
      ⟨h.locals, hargs, h.globals⟩, rfl⟩
  | glob n =>
    exact ⟨fr, Map.set g n w', rfl, ⟨h.locals, h.args, GlobalsOK_iff_mapRel.2 (MapRel.set_right
      (GlobalsOK_iff_mapRel.1 h.globals) fun _ ha => Option.some.inj (hr.symm.trans ha) ▸ hw')⟩, rfl⟩

theorem ptr_read {cx : Ctx} {locs : Locs} {fr : Frame} {g : Globals} (h : VarsOK cx locs fr g) {root : Root}
    {T0 t : ITy} {p : List Key} (hr : rootTy cx locs root = some T0) (hp : tyAt T0 p = some t) :
    ∃ w x, readRoot fr g root = .ok w ∧ valOK T0 w = true ∧ getPath w p = .ok x ∧ valOK t x = true := by
  obtain ⟨w, hw, hwo⟩ := vars_read h hr
  obtain ⟨x, hx, hxo⟩ := path_get hwo hp
  exact ⟨w, x, hw, hwo, hx, hxo⟩

theorem vars_regs {cx : Ctx} {locs : Locs} {fr : Frame} {g : Globals} (h : VarsOK cx locs fr g) (d : Nat) (v : Val) :
    VarsOK cx locs (VM.setReg fr d v) g := ⟨h.locals, h.args, h.globals⟩

section
variable {cx : Ctx} {st : St} {fr : Frame} {g : Globals}

theorem evalVal_nonptr {o : Opd} {v : Val} (h : evalOpd fr o = .ok v) (hn : ∀ r p, v ≠ .ptr r p) :
    evalVal fr g o = .ok v := by
  cases v with
  | ptr r p => exact absurd rfl (hn r p)
  | _ => simp only [evalVal, h, bind, Except.bind]

/-- what the checker knows about an operand; `opdTy`, `opdValTy` and `opdPtr` are three views of it -/
def opdRI (st : St) : Opd → Option RI
  | .ref r => Map.get st.regs r
  | .cInt _ => some (.val (.sc .int))
  | .cFlt _ => some (.val (.sc .float))

theorem opdRI_eval (hr : RegsOK cx st fr) {o : Opd} {ri : RI} (h : opdRI st o = some ri) :
    ∃ v, evalOpd fr o = .ok v ∧ RegOK cx st.locs v ri := by
  cases o with
  | ref r =>
    obtain ⟨v, hv, hvo⟩ := hr r ri h
    exact ⟨v, by simp only [evalOpd, hv], hvo⟩
  | cInt i => cases h; exact ⟨.int i, rfl, rfl⟩
  | cFlt f => cases h; exact ⟨.flt f, rfl, rfl⟩

theorem opdTy_ri {o : Opd} {t : ITy} (h : opdTy st o = some t) :
    opdRI st o = some (.val t) ∨ ∃ root, opdRI st o = some (.ptr t root) := by
  cases o with
  | ref r =>
    rw [opdTy] at h
    split at h
    · rename_i hg; cases h; exact .inl hg
    · rename_i hg; cases h; exact .inr ⟨_, hg⟩
    · cases h
  | cInt i => cases h; exact .inl rfl
  | cFlt f => cases h; exact .inl rfl

theorem opdValTy_ri {o : Opd} {t : ITy} (h : opdValTy st o = some t) : opdRI st o = some (.val t) := by
  cases o with
  | ref r =>
    rw [opdValTy] at h
    split at h
    · rename_i hg; cases h; exact hg
    · cases h
  | cInt i => cases h; rfl
  | cFlt f => cases h; rfl

theorem opdPtr_ri {o : Opd} {t : ITy} {root : Root} (h : opdPtr st o = some (t, root)) :
    opdRI st o = some (.ptr t root) := by
  cases o with
  | ref r =>
    rw [opdPtr] at h
    split at h
    · rename_i hg; cases h; exact hg
    · cases h
  | _ => cases h

theorem opdValTy_eval (hr : RegsOK cx st fr) {o : Opd} {t : ITy} (h : opdValTy st o = some t) :
    ∃ v, evalOpd fr o = .ok v ∧ valOK t v = true :=
  opdRI_eval hr (opdValTy_ri h)

theorem opdPtr_eval (hr : RegsOK cx st fr) {o : Opd} {t : ITy} {root : Root} (h : opdPtr st o = some (t, root)) :
    ∃ p T0, evalOpd fr o = .ok (.ptr root p) ∧ rootTy cx st.locs root = some T0 ∧ tyAt T0 p = some t := by
  obtain ⟨_, hv, p, T0, rfl, hT0, hp⟩ := opdRI_eval hr (opdPtr_ri h)
  exact ⟨p, T0, hv, hT0, hp⟩

theorem opdTy_eval (hr : RegsOK cx st fr) (hv : VarsOK cx st.locs fr g) {o : Opd} {t : ITy}
    (h : opdTy st o = some t) : ∃ v, evalVal fr g o = .ok v ∧ valOK t v = true := by
  rcases opdTy_ri h with h | ⟨root, h⟩
  · obtain ⟨v, hv1, hvo⟩ := opdRI_eval hr h
    exact ⟨v, evalVal_nonptr hv1 (valOK_ne_ptr hvo), hvo⟩
  · obtain ⟨_, hv1, p, T0, rfl, hT0, hp⟩ := opdRI_eval hr h
    obtain ⟨w, x, hw, _, hx, hxo⟩ := ptr_read hv hT0 hp
    exact ⟨x, by simp only [evalVal, hv1, hw, hx, bind, Except.bind], hxo⟩

theorem isIntOpd_eval (hr : RegsOK cx st fr) (hv : VarsOK cx st.locs fr g) {o : Opd} (h : isIntOpd st o = true) :
    ∃ i, evalVal fr g o = .ok (.int i) := by
  unfold isIntOpd at h
  split at h
  · rename_i s ht
    obtain ⟨v, hv1, hvo⟩ := opdTy_eval hr hv ht
    obtain ⟨i, rfl⟩ := scOK_isInt h (by rw [← valOK_sc]; exact hvo)
    exact ⟨i, hv1⟩
  · cases h

theorem opdTys_eval (hr : RegsOK cx st fr) (hv : VarsOK cx st.locs fr g) {os : List Opd} {ts : List ITy}
    (h : opdTys st os = some ts) : ∃ vs, evalVals fr g os = .ok vs ∧ valsOK ts vs = true := by
  induction os generalizing ts with
  | nil => cases h; exact ⟨[], rfl, rfl⟩
  | cons o os ih =>
    rw [opdTys] at h
    split at h
    · rename_i t ts h1 h2
      cases h
      obtain ⟨v, hv1, hvo⟩ := opdTy_eval hr hv h1
      obtain ⟨vs, hvs, hvso⟩ := ih h2
      exact ⟨v :: vs, by simp only [evalVals, hv1, hvs, bind, Except.bind], by rw [valsOK, hvo, hvso]; rfl⟩
    · cases h

theorem fits_eval (hr : RegsOK cx st fr) (hv : VarsOK cx st.locs fr g) {o : Opd} {t : ITy} (h : fits st o t = true) :
    ∃ v, evalVal fr g o = .ok v ∧ valOK t v = true := by
  unfold fits at h
  split at h
  · rename_i a ha
    obtain ⟨v, hv1, hvo⟩ := opdTy_eval hr hv ha
    exact ⟨v, hv1, compat_valOK h hvo⟩
  · cases h

theorem srcOK_eval (hr : RegsOK cx st fr) {o : Opd} {t : ITy} (h : srcOK st o t = true) :
    (∃ r p, evalOpd fr o = .ok (.ptr r p)) ∨ ∃ v, evalOpd fr o = .ok v ∧ valOK t v = true := by
  unfold srcOK at h
  rcases Bool.or_eq_true_iff.1 h with h | h
  · obtain ⟨⟨t', root⟩, hp⟩ := Option.isSome_iff_exists.1 h
    obtain ⟨p, _, he, _, _⟩ := opdPtr_eval hr hp
    exact .inl ⟨root, p, he⟩
  · split at h
    · rename_i a ha
      obtain ⟨v, hv1, hvo⟩ := opdValTy_eval hr ha
      exact .inr ⟨v, hv1, compat_valOK h hvo⟩
    · cases h

end

theorem regs_set {cx : Ctx} {st : St} {fr : Frame} (h : RegsOK cx st fr) {v : Val} {ri : RI} (d : Nat)
    (hv : RegOK cx st.locs v ri) : RegsOK cx (setReg st d ri) (VM.setReg fr d v) :=
  MapRel.set h hv

theorem regs_frame {cx : Ctx} {st : St} {fr fr' : Frame} (h : RegsOK cx st fr) (he : fr'.regs = fr.regs) :
    RegsOK cx st fr' := by
  unfold RegsOK
  rw [he]
  exact h

theorem inv_set {cx : Ctx} {st : St} {fr : Frame} {g : Globals} (h : InvBody cx st fr g) {v : Val} {ri : RI} (d : Nat)
    (hv : RegOK cx st.locs v ri) : InvBody cx (setReg st d ri) (VM.setReg fr d v) g :=
  ⟨h.live, regs_set h.regs d hv, vars_regs h.vars d v⟩

def stateAt (cx : Ctx) (pc : Nat) : St := (cx.code.take pc).foldl (step cx) {}

theorem stateAt_zero (cx : Ctx) : stateAt cx 0 = {} := rfl

theorem stateAt_succ {cx : Ctx} {pc : Nat} {ins : Instr} (hc : cx.code[pc]? = some ins) :
    stateAt cx (pc + 1) = step cx (stateAt cx pc) ins := by
  unfold stateAt
  rw [List.take_add_one, hc]
  simp [List.foldl_append]

theorem checkCode_mid (cx : Ctx) (pre : List Instr) (st : St) (ins : Instr) (suf : List Instr)
    (h : checkCode cx st (pre ++ ins :: suf) = true) :
    instrOK cx (pre.foldl (step cx) st) ins = true ∧
      ((step cx (pre.foldl (step cx) st) ins).dead = true ∨ tyBeq cx.ret .void = true ∨ suf ≠ []) := by
  induction pre generalizing st with
  | nil =>
    simp only [List.nil_append, checkCode, Bool.and_eq_true, Bool.or_eq_true] at h
    refine ⟨h.1.1, ?_⟩
    rcases h.1.2 with (h1 | h1) | h1
    · exact Or.inl h1
    · exact Or.inr (Or.inl h1)
    · right; right
      intro e; subst e; simp at h1
  | cons p pre ih =>
    simp only [List.cons_append, checkCode, Bool.and_eq_true] at h
    exact ih _ h.2

theorem checkCode_at {cx : Ctx} (h : checkCode cx {} cx.code = true) {pc : Nat} {ins : Instr}
    (hc : cx.code[pc]? = some ins) :
    instrOK cx (stateAt cx pc) ins = true ∧
      ((stateAt cx (pc + 1)).dead = true ∨ tyBeq cx.ret .void = true ∨ cx.code[pc + 1]? ≠ none) := by
  have hlt : pc < cx.code.length := by
    rcases Nat.lt_or_ge pc cx.code.length with h | h
    · exact h
    · rw [List.getElem?_eq_none h] at hc; cases hc
  have h1 : cx.code[pc] = ins := by
    rw [List.getElem?_eq_getElem hlt] at hc; exact Option.some.inj hc
  have hsplit : cx.code = cx.code.take pc ++ ins :: cx.code.drop (pc + 1) := by
    rw [← h1, ← List.drop_eq_getElem_cons hlt, List.take_append_drop]
  have hm := checkCode_mid cx (cx.code.take pc) {} ins (cx.code.drop (pc + 1)) (by rw [← hsplit]; exact h)
  refine ⟨hm.1, ?_⟩
  rw [stateAt_succ hc]
  rcases hm.2 with h2 | h2 | h2
  · exact Or.inl h2
  · exact Or.inr (Or.inl h2)
  · right; right
    intro hn
    apply h2
    have : cx.code.length ≤ pc + 1 := by simpa using hn
    exact List.drop_eq_nil_of_le this

end IRType
end Nsl
