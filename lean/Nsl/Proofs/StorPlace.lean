import Nsl.Proofs.StorExpr
/-!
# Storage core: access chains (`psim_succ`) and stores (`stsim`)

Both, and the element read of `StorEval`, go through `index_prefix`: what holds once the base alias and the index
value of an indexed access sit in their registers.
-/
namespace Nsl
namespace Stor
open Core VM CoreSem Lower Sim

/-- The root of an access chain is a local of the rank the chain still has to descend plus the path length. -/
theorem evalPlace_root {M : Core.Module} {Γ : Env} : ∀ (n : Nat) (e : Expr) {fr : Frame} {g : Globals} {r : Root}
    {p : List Key} {fr' : Frame} {g' : Globals} {d : Nat},
    evalPlace M n e fr g = .place r p fr' g' → placeRank Γ e = some d → ∃ x, r = .loc x ∧ p.length + d = Γ x
  | 0, _, _, _, _, _, _, _, _, h, _ => by simp [evalPlace] at h
  | n + 1, e, fr, g, r, p, fr', g', d, h, hp => by
    cases e with
    | var sc key ty =>
      obtain ⟨x, rfl, rfl, _, hx, _⟩ := placeRank_var_inv hp
      obtain ⟨hr, rfl, _, _⟩ := evalPlace_var_inv h
      cases hr
      exact ⟨x, rfl, by simp [hx]⟩
    | index kd ty base idx =>
      obtain ⟨rfl, hb, _, _, _⟩ := placeRank_index_inv hp
      obtain ⟨p0, fr1, g1, i, root, c, k, h1, _, _, _, _, rfl⟩ := evalPlace_index_inv h
      obtain ⟨x, rfl, hlen⟩ := evalPlace_root n base h1 hb
      exact ⟨x, rfl, by simp; omega⟩
    | _ => simp [placeRank] at hp

/-- An indexed access `base[idx]` after the code of `base` and `idx` has run: `vb`, `vi` hold the alias
`.ptr (.loc xn) p` of the container and the index value; container, key and element are those of the reference
semantics; the place of the access is `.loc xn`, `p ++ [.idx kk]`. -/
structure IndexAcc (M : Core.Module) (code : List Instr) (Γ : Env) (q k k2 : Nat) (cb ci : List Instr) (vb vi : Opd)
    (ρ : Map Nat Val) (fr : Frame) (g : Globals) (fr2 : Frame) (g2 : Globals) (d : Nat) where
  ρ2 : Map Nat Val
  xn : String
  p : List Key
  c : Val
  kk : Nat
  i : Val
  root : Val
  x : Val
  rank : (p ++ [Key.idx kk]).length + d = Γ xn
  run : Run (lowerModule M) code q (cb ++ ci) k (ρ, fr, g) (ρ2, fr2, g2)
  base : evalOpd (vf ρ2 fr2) vb = .ok (.ptr (.loc xn) p)
  idx : evalOpd (vf ρ2 fr2) vi = .ok i
  idx_noPtr : Val.isPtr i = false
  read : readRoot fr2 g2 (.loc xn) = .ok root
  cont : getPath root p = .ok c
  key : indexOf c i = .ok kk
  elem : getKey c (.idx kk) = .ok x
  tree : Tree d x
  le : k ≤ k2
  frOK : FrOKS Γ fr2
  glOK : MapOK g2
  dom : DomLe Γ fr2 fr

theorem index_prefix {M : Core.Module} {m : Nat} (ihE : ESimS M m) (ihP : PSimS M m)
    {code : List Instr} {Γ : Env} {ty : ITy} {base idx : Expr} {fr : Frame} {g : Globals} {r : Root} {p' : List Key}
    {fr2 : Frame} {g2 : Globals} {d : Nat}
    (h : evalPlace M (m + 1) (.index .arr ty base idx) fr g = .place r p' fr2 g2)
    (hb : placeRank Γ base = some (d + 1)) (hi : okES Γ idx = true) (hf : FrOKS Γ fr) (hg : MapOK g)
    {k : Nat} {cb : List Instr} {vb : Opd} {k1 : Nat} {ci : List Instr} {vi : Opd} {k2 q : Nat} (ρ : Map Nat Val)
    (hlb : lowerE base k = (cb, vb, k1)) (hli : lowerE idx k1 = (ci, vi, k2)) (hat : At code q (cb ++ ci)) :
    ∃ A : IndexAcc M code Γ q k k2 cb ci vb vi ρ fr g fr2 g2 d, r = .loc A.xn ∧ p' = A.p ++ [.idx A.kk] := by
  obtain ⟨p, fr1, g1, i, root, c, kk, h1, h2, hr, hp, hk, rfl⟩ := evalPlace_index_inv h
  obtain ⟨xn, rfl, hlen⟩ := evalPlace_root (Γ := Γ) m base h1 hb
  have le1 := lowerE_mono base k cb vb k1 hlb
  have le2 := lowerE_mono idx k1 ci vi k2 hli
  obtain ⟨ρ1, hc1, hf1, hg1, hd1⟩ := ihP h1 hb hf hg ρ hlb hat.left
  obtain ⟨ρ2, r2, e2, p2, hf2, hg2, hd2⟩ := ihE h2 hi hf1 hg1 ρ1 hli hat.right
  -- the root is readable after the index, hence (no aggregate local appears) before it
  have hread1 : ∃ root1, readRoot fr1 g1 (.loc xn) = .ok root1 := by
    have := hd2 xn (by omega) (by rw [readRoot_loc] at hr; simp [hr])
    cases hm : Map.get fr1.locals xn with
    | none => simp [hm] at this
    | some w => exact ⟨w, readRoot_loc.2 hm⟩
  obtain ⟨r1, e1⟩ := hc1 hread1
  have ht : Tree (d + 1) c := Tree.path p (by rw [hlen]; exact readRoot_tree hf2 hr) hp
  obtain ⟨x, hx⟩ := indexOf_getKey hk
  exact ⟨{
    ρ2 := ρ2, xn := xn, p := p, c := c, kk := kk, i := i, root := root, x := x
    rank := by simp; omega
    run := r1.append r2 le1
    base := r2.opd e1 (lowerE_shapeG base k cb vb k1 hlb).2.2
    idx := e2
    idx_noPtr := p2
    read := hr
    cont := hp
    key := hk
    elem := hx
    tree := ht.key hx
    le := Nat.le_trans le1 le2
    frOK := hf2
    glOK := hg2
    dom := hd2.trans hd1 }, rfl, rfl⟩

theorem psim_succ (M : Core.Module) (n : Nat) (ihE : ESimS M n) (ihP : PSimS M n) : PSimS M (n + 1) := by
  intro code Γ e fr g r p fr' g' d h hp hf hg k c o k' q ρ hl hat
  cases e with
  | var sc key ty =>
    obtain ⟨x, rfl, rfl, hagg, hx, hd0⟩ := placeRank_var_inv hp
    obtain ⟨hr, rfl, rfl, rfl⟩ := evalPlace_var_inv h
    cases hr
    simp only [lowerE, Prod.mk.injEq] at hl
    obtain ⟨rfl, rfl, rfl⟩ := hl
    refine ⟨Map.set ρ k (.ptr (.loc x) []), ?_, hf, hg, DomLe.refl _ _⟩
    rintro ⟨root, hr⟩
    have ht : Tree (Γ x) root := readRoot_tree hf hr
    obtain ⟨d', rfl⟩ : ∃ d', d = d' + 1 := ⟨d - 1, by omega⟩
    rw [hx] at ht
    have hstep := step_load_agg (cf := callD (lowerModule M) 0) (g := g') (fr := vf ρ fr') hat.head
      (root := .loc x) rfl (by rw [readRoot_vf]; exact hr) hagg ht.agg
    exact ⟨Run.reg hstep (Nat.le_refl k), evalOpd_vf_set ..⟩
  | index kd ty base idx =>
    obtain ⟨rfl, hb, hagg, hi, hd0⟩ := placeRank_index_inv hp
    obtain ⟨d', rfl⟩ : ∃ d', d = d' + 1 := ⟨d - 1, by omega⟩
    rcases hlb : lowerE base k with ⟨cb, vb, k1⟩
    rcases hli : lowerE idx k1 with ⟨ci, vi, k2⟩
    simp only [lowerE, hlb, hli, Prod.mk.injEq] at hl
    obtain ⟨rfl, rfl, rfl⟩ := hl
    obtain ⟨A, rfl, rfl⟩ := index_prefix ihE ihP h hb hi hf hg ρ hlb hli hat.left
    have hstep := step_loadArr (cf := callD (lowerModule M) 0) (g := g') (ty := ty) (dst := k2) hat.right.head A.base
      A.idx A.idx_noPtr (by rw [readRoot_vf]; exact A.read) A.cont A.key A.elem
    simp only [hagg, A.tree.agg, Bool.and_self, if_true] at hstep
    exact ⟨Map.set A.ρ2 k2 (.ptr (.loc A.xn) (A.p ++ [.idx A.kk])), fun _ => ⟨A.run.append (Run.reg hstep (Nat.le_refl k2)) A.le,
      evalOpd_vf_set ..⟩, A.frOK, A.glOK, A.dom⟩
  | _ => simp [placeRank] at hp

/-- Stores.  A store to an element or field at fuel `m + 2` evaluates its place at fuel `m + 1`, whose base and index
are evaluated at fuel `m`: hence the claims at smaller fuels as hypothesis, and the two case splits on the fuel. -/
theorem stsim (M : Core.Module) (n : Nat) (ih : ∀ m, m < n → ESimS M m ∧ PSimS M m) : StSimS M n := by
  intro code Γ lhs fr g v w fr' g' h hlhs hok hf hg k c o k' q ρ hl hat hov hob
  cases n with
  | zero => simp [storeTo] at h
  | succ n1 =>
  rcases isLhs_inv hlhs with ⟨sc, key, ty, rfl⟩ | hplace
  · -- scalar variable
    obtain ⟨hty, hkey⟩ := okES_var_inv hok
    obtain ⟨root, hroot, hnp, hw⟩ := storeTo_var_inv h
    obtain ⟨root', hroot', hr0⟩ := varOKS_rootOf hkey
    rw [hroot] at hroot'; cases hroot'
    simp only [lowerStore_var, Prod.mk.injEq] at hl
    obtain ⟨rfl, rfl⟩ := hl
    have hstep := step_store (cf := callD (lowerModule M) 0) hat.head hroot hov hnp (writeRoot_vf (ρ := ρ) hw)
    obtain ⟨hf2, hg2, hd2⟩ := writeRoot_okS hf hg hnp hr0 hw
    exact ⟨ρ, Run.eff hstep, hnp, hf2, hg2, hd2⟩
  · obtain ⟨r, p', fr1, g1, root, root', hpl, hnp, hr, hs, hw⟩ := storeTo_place_inv hplace h
    cases n1 with
    | zero => simp [evalPlace] at hpl
    | succ m =>
    obtain ⟨ihE, ihP⟩ := ih m (by omega)
    rcases hplace with ⟨ty, base, idx, rfl⟩ | ⟨ty, base, f, rfl⟩
    · -- element of an array
      obtain ⟨_, hty, hb, hi⟩ := okES_index_inv hok
      rcases hlb : lowerE base k with ⟨cb, vb, k1⟩
      rcases hli : lowerE idx k1 with ⟨ci, vi, k2⟩
      simp only [lowerStore, hlb, hli, Prod.mk.injEq] at hl
      obtain ⟨rfl, rfl⟩ := hl
      obtain ⟨A, rfl, rfl⟩ := index_prefix ihE ihP hpl hb hi hf hg ρ hlb hli hat.left
      obtain rfl : root = A.root := Except.ok.inj (hr.symm.trans A.read)
      have hstep := step_storeArr (cf := callD (lowerModule M) 0) (g := g1) hat.right.head A.base A.idx A.idx_noPtr
        (A.run.opd hov hob) hnp (by rw [readRoot_vf]; exact hr) A.cont A.key hs
        (writeRoot_vf (ρ := A.ρ2) hw)
      obtain ⟨hf3, rfl, hd3⟩ := writeLoc_okS (d := 0) A.frOK hnp hr A.rank hs hw
      exact ⟨A.ρ2, A.run.append (Run.eff hstep) (Nat.le_refl k), hnp, hf3, A.glOK, hd3.trans A.dom⟩
    · -- field of a struct
      obtain ⟨hty, hb⟩ := okES_member_inv hok
      obtain ⟨p0, hpb, rfl⟩ := evalPlace_member_inv hpl
      obtain ⟨xn, rfl, hlen⟩ := evalPlace_root (Γ := Γ) m base hpb hb
      rcases hlb : lowerE base k with ⟨cb, vb, k1⟩
      simp only [lowerStore, hlb, Prod.mk.injEq] at hl
      obtain ⟨rfl, rfl⟩ := hl
      obtain ⟨ρ1, hc1, hf1, hg1, hd1⟩ :=
        ihP hpb hb hf hg ρ hlb hat.left
      obtain ⟨r1, e1⟩ := hc1 ⟨root, hr⟩
      have hstep := step_storeMem (cf := callD (lowerModule M) 0) (g := g1) hat.right.head e1 (r1.opd hov hob) hnp
        (by rw [readRoot_vf]; exact hr) hs (writeRoot_vf (ρ := ρ1) hw)
      obtain ⟨hf3, rfl, hd3⟩ := writeLoc_okS (d := 0) hf1 hnp hr (by simp; omega) hs hw
      exact ⟨ρ1, r1.append (Run.eff hstep) (Nat.le_refl k), hnp, hf3, hg1, hd3.trans hd1⟩

end Stor
end Nsl
