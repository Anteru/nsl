import Nsl.Proofs.IRTypeStep1
/-!
# IR typing: one instruction preserves the invariant — arrays, structs (through aliases), vector/matrix components
-/
namespace Nsl
namespace IRType
open VM

section
variable {cx : Ctx} {callf : String → List Val → Globals → Res} {pc : Nat} {st : St} {fr : Frame} {g : Globals}
  {ins : Instr}

theorem setPath_post {T0 t : ITy} {root : Root} {p : List Key} {w v : Val} (hinv : InvBody cx st fr g)
    (hstep : step cx st ins = st) (hnt : isTerm ins = false) (hT0 : rootTy cx st.locs root = some T0)
    (hw : valOK T0 w = true) (hp : tyAt T0 p = some t) (hv : valOK t v = true) :
    StepPost cx st ins pc
      (liftE (setPath w p v) fun w' => liftE (writeRoot fr g root w') fun (fr', g') => .next (pc + 1) fr' g') := by
  obtain ⟨w', hw', hwo'⟩ := path_set hw hp hv
  exact post_ok hw' (write_post hinv hstep hnt hT0 hwo')

theorem arr_indexOf {e : ITy} {n : Nat} {ds : List Nat} {c : Val} (hc : valOK (.arr e (n :: ds)) c = true) (i : Int) :
    Sound (fun k => tyAtKey (.arr e (n :: ds)) (.idx k) = some (elemTy e ds)) (okErr cx.strict) (indexOf c (.int i)) := by
  obtain ⟨vs, rfl, hl, _⟩ := arr_iff.1 hc
  exact (indexOf_list vs i).mono (fun k hk => arr_key (hl ▸ hk)) fun _ h => h.ok

theorem step_loadArr {d : Nat} {ty : ITy} {arr idx : Opd} (hinv : InvBody cx st fr g)
    (hok : ruleOK cx st (.loadArr d ty arr idx) = true) :
    StepPost cx st (.loadArr d ty arr idx) pc
      (liftE (evalOpd fr arr) fun a => liftE (evalVal fr g idx) fun i =>
        match a with
        | .ptr r p =>
          liftE (do let root ← readRoot fr g r; getPath root p) fun container =>
          liftE (indexOf container i) fun k =>
          liftE (getKey container (.idx k)) fun x =>
          if ty.isAggregate && isAggVal x then .next (pc + 1) (VM.setReg fr d (.ptr r (p ++ [.idx k]))) g
          else .next (pc + 1) (VM.setReg fr d x) g
        | container =>
          liftE (indexOf container i) fun k =>
          liftE (getKey container (.idx k)) fun x => .next (pc + 1) (VM.setReg fr d x) g) := by
  dsimp only [ruleOK] at hok
  split at hok
  · rename_i e n ds root hp
    rw [Bool.and_eq_true] at hok
    obtain ⟨p, T0, he, hT0, hpt⟩ := opdPtr_eval hinv.regs hp
    obtain ⟨i, hi⟩ := isIntOpd_eval hinv.regs hinv.vars hok.1
    obtain ⟨w, c, hw, _, hcg, hco⟩ := ptr_read hinv.vars hT0 hpt
    have hs : step cx st (.loadArr d ty arr idx) = setReg st d (mkRI ty root) := by dsimp only [step]; rw [hp]
    refine post_ok he (post_ok hi (post_ok (by rw [hw]; exact hcg) (post_bind (arr_indexOf hco i) fun k hk => ?_)))
    obtain ⟨x, hx, hxo⟩ := key_get hco hk
    exact post_ok hx (load_post hinv hs rfl hT0 (tyAt_snoc hpt hk) hxo hok.2)
  · cases hok

theorem step_storeArr {arr idx src : Opd} (hinv : InvBody cx st fr g)
    (hok : ruleOK cx st (.storeArr arr idx src) = true) :
    StepPost cx st (.storeArr arr idx src) pc
      (liftE (evalOpd fr arr) fun a => liftE (evalVal fr g idx) fun i => liftE (evalOpd fr src) fun v =>
        match v with
        | .ptr _ _ => .fail (.unsupported "whole-aggregate-assignment")
        | v =>
          match a with
          | .ptr r p =>
            liftE (readRoot fr g r) fun root =>
            liftE (getPath root p) fun container =>
            liftE (indexOf container i) fun k =>
            liftE (setPath root (p ++ [.idx k]) v) fun root' =>
            liftE (writeRoot fr g r root') fun (fr', g') => .next (pc + 1) fr' g'
          | container =>
            liftE (indexOf container i) fun _ => .next (pc + 1) fr g) := by
  dsimp only [ruleOK] at hok
  split at hok
  · rename_i e n ds root hp
    rw [Bool.and_eq_true] at hok
    obtain ⟨p, T0, he, hT0, hpt⟩ := opdPtr_eval hinv.regs hp
    obtain ⟨i, hi⟩ := isIntOpd_eval hinv.regs hinv.vars hok.1
    obtain ⟨w, c, hw, hwo, hcg, hco⟩ := ptr_read hinv.vars hT0 hpt
    refine post_ok he (post_ok hi (src_post hinv hok.2 fun v hv => ?_))
    exact post_ok hw (post_ok hcg (post_bind (arr_indexOf hco i) fun k hk =>
      setPath_post hinv rfl rfl hT0 hwo (tyAt_snoc hpt hk) hv))
  · cases hok

theorem step_loadMem {d : Nat} {ty : ITy} {obj : Opd} {field : String} (hinv : InvBody cx st fr g)
    (hok : ruleOK cx st (.loadMem d ty obj field) = true) :
    StepPost cx st (.loadMem d ty obj field) pc
      (liftE (evalOpd fr obj) fun a =>
        match a with
        | .ptr r p =>
          liftE (do let root ← readRoot fr g r; getPath root p) fun container =>
          liftE (getKey container (.fld field)) fun x =>
          if ty.isAggregate && isAggVal x then .next (pc + 1) (VM.setReg fr d (.ptr r (p ++ [.fld field]))) g
          else .next (pc + 1) (VM.setReg fr d x) g
        | container =>
          liftE (getKey container (.fld field)) fun x => .next (pc + 1) (VM.setReg fr d x) g) := by
  dsimp only [ruleOK] at hok
  split at hok
  · rename_i nm fs root hp
    split at hok
    · rename_i t hf
      obtain ⟨p, T0, he, hT0, hpt⟩ := opdPtr_eval hinv.regs hp
      obtain ⟨w, c, hw, _, hcg, hco⟩ := ptr_read hinv.vars hT0 hpt
      obtain ⟨x, hx, hxo⟩ := key_get hco (fld_key hf)
      have hs : step cx st (.loadMem d ty obj field) = setReg st d (mkRI ty root) := by
        dsimp only [step]; rw [hp]
      exact post_ok he (post_ok (by rw [hw]; exact hcg) (post_ok hx
        (load_post hinv hs rfl hT0 (tyAt_snoc hpt (fld_key hf)) hxo hok)))
    · cases hok
  · cases hok

theorem step_storeMem {obj : Opd} {field : String} {src : Opd} (hinv : InvBody cx st fr g)
    (hok : ruleOK cx st (.storeMem obj field src) = true) :
    StepPost cx st (.storeMem obj field src) pc
      (liftE (evalOpd fr obj) fun a => liftE (evalOpd fr src) fun v =>
        match v with
        | .ptr _ _ => .fail (.unsupported "whole-aggregate-assignment")
        | v =>
          match a with
          | .ptr r p =>
            liftE (readRoot fr g r) fun root =>
            liftE (setPath root (p ++ [.fld field]) v) fun root' =>
            liftE (writeRoot fr g r root') fun (fr', g') => .next (pc + 1) fr' g'
          | .struct _ => .next (pc + 1) fr g
          | _ => .fail (.internal "subscript-on-wrong-kind")) := by
  dsimp only [ruleOK] at hok
  split at hok
  · rename_i nm fs root hp
    split at hok
    · rename_i t hf
      obtain ⟨p, T0, he, hT0, hpt⟩ := opdPtr_eval hinv.regs hp
      obtain ⟨w, hw, hwo⟩ := vars_read hinv.vars hT0
      exact post_ok he (src_post hinv hok fun v hv =>
        post_ok hw (setPath_post hinv rfl rfl hT0 hwo (tyAt_snoc hpt (fld_key hf)) hv))
    · cases hok
  · cases hok

/-- `vecGet` and `matGet` have one rule and one body; `ins` is either -/
theorem getElem_post {d : Nat} {ty : ITy} {v idx : Opd}
    (hstep : step cx st ins = setReg st d (.val ty)) (hnt : isTerm ins = false) (hinv : InvBody cx st fr g)
    (hok : ruleOK cx st (.vecGet d ty v idx) = true) :
    StepPost cx st ins pc
      (liftE (evalVal fr g v) fun a => liftE (evalVal fr g idx) fun i => liftE (indexOf a i) fun k =>
        liftE (getKey a (.idx k)) fun x => .next (pc + 1) (VM.setReg fr d x) g) := by
  dsimp only [ruleOK] at hok
  split at hok
  · rename_i tv hv
    rw [Bool.and_eq_true] at hok
    obtain ⟨a, ha, hao⟩ := opdTy_eval hinv.regs hinv.vars hv
    obtain ⟨i, hi⟩ := isIntOpd_eval hinv.regs hinv.vars hok.1
    refine post_ok ha (post_ok hi ?_)
    rw [← liftE_bind]
    exact post_def hinv hstep hnt ((elem_get hok.2 hao).mono_err fun _ h => h.ok)
  · cases hok

theorem setElem_post {d : Nat} {ty : ITy} {v idx src : Opd}
    (hstep : step cx st ins = step cx st (.vecSet d ty v idx src)) (hnt : isTerm ins = false)
    (hinv : InvBody cx st fr g) (hok : ruleOK cx st (.vecSet d ty v idx src) = true) :
    StepPost cx st ins pc
      (liftE (evalVal fr g v) fun a => liftE (evalVal fr g idx) fun i => liftE (evalVal fr g src) fun x =>
        liftE (indexOf a i) fun k => liftE (setKey a (.idx k) x) fun a' => .next (pc + 1) (VM.setReg fr d a') g) := by
  dsimp only [ruleOK] at hok
  split at hok
  · rename_i tv ts hv hs
    rw [Bool.and_eq_true] at hok
    obtain ⟨a, ha, hao⟩ := opdTy_eval hinv.regs hinv.vars hv
    obtain ⟨x, hx, hxo⟩ := opdTy_eval hinv.regs hinv.vars hs
    obtain ⟨i, hi⟩ := isIntOpd_eval hinv.regs hinv.vars hok.1
    have hstep' : step cx st ins = setReg st d (.val tv) := by rw [hstep]; dsimp only [step]; rw [hv]
    refine post_ok ha (post_ok hi (post_ok hx ?_))
    rw [← liftE_bind]
    exact post_def hinv hstep' hnt ((elem_set hok.2 hao hxo).mono_err fun _ h => h.ok)
  · cases hok

theorem step_shuffle {d : Nat} {ty : ITy} {a b : Opd} {idx : List Nat} (hinv : InvBody cx st fr g)
    (hok : ruleOK cx st (.shuffle d ty a b idx) = true) :
    StepPost cx st (.shuffle d ty a b idx) pc
      (liftE (evalVal fr g a) fun x => liftE (evalVal fr g b) fun y =>
        liftE (shuffleExec ty x y idx) fun z => .next (pc + 1) (VM.setReg fr d z) g) := by
  dsimp only [ruleOK] at hok
  split at hok
  · rename_i ta tb ha hb
    obtain ⟨x, hx, hxo⟩ := opdTy_eval hinv.regs hinv.vars ha
    obtain ⟨y, hy, hyo⟩ := opdTy_eval hinv.regs hinv.vars hb
    obtain ⟨z, hz, hzo⟩ := shuffleExec_sound hok hxo hyo
    exact post_ok hx (post_ok hy (post_ok hz (.inl ⟨rfl, rfl, inv_set hinv d hzo⟩)))
  · cases hok

theorem step_construct {d : Nat} {ty : ITy} {vals : List Opd} (hinv : InvBody cx st fr g)
    (hok : ruleOK cx st (.construct d ty vals) = true) :
    StepPost cx st (.construct d ty vals) pc
      (liftE (evalVals fr g vals) fun vs =>
        liftE (constructExec ty vs) fun z => .next (pc + 1) (VM.setReg fr d z) g) := by
  dsimp only [ruleOK] at hok
  split at hok
  · rename_i ts hts
    obtain ⟨vs, hvs, hvso⟩ := opdTys_eval hinv.regs hinv.vars hts
    obtain ⟨z, hz, hzo⟩ := constructExec_sound hok hvso
    exact post_ok hvs (post_ok hz (.inl ⟨rfl, rfl, inv_set hinv d hzo⟩))
  · cases hok

end

theorem step_sound {cx : Ctx} {callf : String → List Val → Globals → Res} (hcall : CallSpec cx callf) {pc : Nat}
    {ins : Instr} (hc : cx.code[pc]? = some ins) {st : St} {fr : Frame} {g : Globals} (hinv : InvBody cx st fr g)
    (hok : ruleOK cx st ins = true) : StepPost cx st ins pc (stepI callf cx.code pc fr g) := by
  -- `stepI` is unfolded here, once; what is left in each case is the expression the lemma of that case speaks of
  unfold stepI
  rw [hc]
  cases ins with
  | label l => exact step_label hinv hok
  | load d ty sc var => exact step_load hinv hok
  | store sc var src => exact step_store hinv hok
  | newVar d ty name => exact step_newVar hinv hok
  | bin d op ty a b => exact step_bin hinv hok
  | cast d ty a => exact step_cast hinv hok
  | br l => exact step_br hinv hok
  | brc p t f => exact step_brc hinv hok
  | ret o =>
    cases o with
    | none => exact step_ret_none hinv hok
    | some o => exact step_ret_some hinv hok
  | call d ty fn args => exact step_call hcall hinv hok
  | loadArr d ty arr idx => exact step_loadArr hinv hok
  | storeArr arr idx src => exact step_storeArr hinv hok
  | loadMem d ty obj field => exact step_loadMem hinv hok
  | storeMem obj field src => exact step_storeMem hinv hok
  | vecGet d ty v idx => exact getElem_post rfl rfl hinv hok
  | vecSet d ty v idx src => exact setElem_post rfl rfl hinv hok
  | matGet d ty v idx => exact getElem_post rfl rfl hinv hok
  | matSet d ty v idx src => exact setElem_post (ty := ty) rfl rfl hinv hok
  | shuffle d ty a b idx => exact step_shuffle hinv hok
  | construct d ty vals => exact step_construct hinv hok

end IRType
end Nsl
