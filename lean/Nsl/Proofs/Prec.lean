import Nsl.Model.Prec

/-!
The invariant of the shift/reduce loop is that finishing at once would give a well-grouped tree,
`WellGrouped lvl (reduceAll stk cur)`: the pieces are well grouped, levels strictly increase towards
the top of the stack, and the top binds looser than the root of `cur` (`topOk`).  `reduceWhile` stops
with the top strictly below the lookahead `o` and builds only nodes of level `≥ lvl o`, so pushing
`(_, o)` keeps the invariant.  The round trip is an induction on the tree; for parentheses, `witness`
is the tree over operands that the outer parser has to find.
-/

namespace Nsl.Prec

variable {Op α : Type}

theorem rootGeB_iff (lvl : Op → Nat) (n : Nat) (t : Tree Op α) :
    rootGeB lvl n t = true ↔ rootGe lvl n t := by
  cases t <;> simp [rootGeB, rootGe]

theorem rootGtB_iff (lvl : Op → Nat) (n : Nat) (t : Tree Op α) :
    rootGtB lvl n t = true ↔ rootGt lvl n t := by
  cases t <;> simp [rootGtB, rootGt]

theorem wellGroupedB_iff (lvl : Op → Nat) (t : Tree Op α) :
    wellGroupedB lvl t = true ↔ WellGrouped lvl t := by
  induction t with
  | leaf a => simp [wellGroupedB, WellGrouped]
  | node op l r ihl ihr =>
    simp [wellGroupedB, WellGrouped, rootGeB_iff, rootGtB_iff, ihl, ihr, and_assoc]

instance (lvl : Op → Nat) (t : Tree Op α) : Decidable (WellGrouped lvl t) :=
  decidable_of_iff _ (wellGroupedB_iff lvl t)

theorem rootGt_of_rootGe {lvl : Op → Nat} {m n : Nat} {t : Tree Op α}
    (h : rootGe lvl m t) (hmn : n < m) : rootGt lvl n t := by
  cases t with
  | leaf a => trivial
  | node p l r => simp only [rootGe, rootGt] at *; omega

theorem rootGe_of_rootGt {lvl : Op → Nat} {m n : Nat} {t : Tree Op α}
    (h : rootGt lvl m t) (hmn : n ≤ m) : rootGe lvl n t := by
  cases t with
  | leaf a => trivial
  | node p l r => simp only [rootGe, rootGt] at *; omega

/-- The operator on top of the stack (if any) has level `< ` the root operator of `t` (if any). -/
def topOk (lvl : Op → Nat) : List (Tree Op α × Op) → Tree Op α → Prop
  | [], _ => True
  | (_, q) :: _, t => rootGt lvl (lvl q) t

/-- The operator on top of the stack (if any) has level `< n`. -/
def topLt (lvl : Op → Nat) (n : Nat) : List (Tree Op α × Op) → Prop
  | [] => True
  | (_, q) :: _ => lvl q < n

theorem topOk_node {lvl : Op → Nat} {stk : List (Tree Op α × Op)} {p : Op} {l r : Tree Op α} :
    topOk lvl stk (.node p l r) ↔ topLt lvl (lvl p) stk := by
  cases stk <;> exact Iff.rfl

theorem topOk_of_topLt_rootGe {lvl : Op → Nat} {stk : List (Tree Op α × Op)} {n : Nat}
    {t : Tree Op α} (h : topLt lvl n stk) (ht : rootGe lvl n t) : topOk lvl stk t := by
  cases stk with
  | nil => trivial
  | cons e stk => exact rootGt_of_rootGe ht h

theorem reduceWhile_cons_of_le {lvl : Op → Nat} {l t : Tree Op α} {p o : Op}
    {stk : List (Tree Op α × Op)} (h : lvl o ≤ lvl p) :
    reduceWhile lvl ((l, p) :: stk) t o = reduceWhile lvl stk (.node p l t) o := by
  rw [reduceWhile, if_pos h]

theorem reduceWhile_cons_of_lt {lvl : Op → Nat} {l t : Tree Op α} {p o : Op}
    {stk : List (Tree Op α × Op)} (h : lvl p < lvl o) :
    reduceWhile lvl ((l, p) :: stk) t o = ((l, p) :: stk, t) := by
  rw [reduceWhile, if_neg (by omega)]

theorem reduceWhile_spec (lvl : Op → Nat) (stk : List (Tree Op α × Op)) (t : Tree Op α) (o : Op) :
    reduceAll (reduceWhile lvl stk t o).1 (reduceWhile lvl stk t o).2 = reduceAll stk t ∧
    topLt lvl (lvl o) (reduceWhile lvl stk t o).1 ∧
    (rootGe lvl (lvl o) t → rootGe lvl (lvl o) (reduceWhile lvl stk t o).2) := by
  induction stk generalizing t with
  | nil => exact ⟨rfl, trivial, id⟩
  | cons e stk ih =>
    obtain ⟨l, p⟩ := e
    by_cases h : lvl o ≤ lvl p
    · rw [reduceWhile_cons_of_le h]
      exact ⟨(ih _).1, (ih _).2.1, fun _ => (ih _).2.2 h⟩
    · rw [reduceWhile_cons_of_lt (Nat.lt_of_not_le h)]
      exact ⟨rfl, Nat.lt_of_not_le h, id⟩

theorem reduceWhile_of_topLt (lvl : Op → Nat) (stk : List (Tree Op α × Op)) (t : Tree Op α)
    (o : Op) (h : topLt lvl (lvl o) stk) : reduceWhile lvl stk t o = (stk, t) := by
  cases stk with
  | nil => rfl
  | cons e stk => exact reduceWhile_cons_of_lt h

theorem yield_reduceAll_ext (stk : List (Tree Op α × Op)) (t u : Tree Op α) (zs : List (Op × α))
    (h1 : (yield u).1 = (yield t).1) (h2 : (yield u).2 = (yield t).2 ++ zs) :
    yield (reduceAll stk u)
      = ((yield (reduceAll stk t)).1, (yield (reduceAll stk t)).2 ++ zs) := by
  induction stk generalizing t u with
  | nil => simp only [reduceAll]; rw [← h1, ← h2]
  | cons e stk ih =>
    obtain ⟨l, p⟩ := e
    simp only [reduceAll]
    apply ih
    · simp [yield]
    · simp [yield, h1, h2]

theorem yield_parseLoop (lvl : Op → Nat) (rest : List (Op × α)) (stk : List (Tree Op α × Op))
    (cur : Tree Op α) :
    yield (parseLoop lvl stk cur rest)
      = ((yield (reduceAll stk cur)).1, (yield (reduceAll stk cur)).2 ++ rest) := by
  induction rest generalizing stk cur with
  | nil => simp [parseLoop]
  | cons e rest ih =>
    obtain ⟨o, a⟩ := e
    simp only [parseLoop]
    rw [ih]
    simp only [reduceAll]
    rw [yield_reduceAll_ext _ (reduceWhile lvl stk cur o).2 _ [(o, a)] (by simp [yield])
      (by simp [yield])]
    rw [(reduceWhile_spec lvl stk cur o).1]
    simp

theorem wg_of_wg_reduceAll (lvl : Op → Nat) (stk : List (Tree Op α × Op)) (t : Tree Op α)
    (h : WellGrouped lvl (reduceAll stk t)) : WellGrouped lvl t := by
  induction stk generalizing t with
  | nil => exact h
  | cons e stk ih =>
    obtain ⟨l, p⟩ := e
    have := ih _ h
    exact this.2.2.2

theorem topOk_of_wg_reduceAll (lvl : Op → Nat) (stk : List (Tree Op α × Op)) (t : Tree Op α)
    (h : WellGrouped lvl (reduceAll stk t)) : topOk lvl stk t := by
  cases stk with
  | nil => trivial
  | cons e stk =>
    obtain ⟨l, p⟩ := e
    have := wg_of_wg_reduceAll lvl stk _ h
    exact this.2.1

theorem wg_reduceAll_replace (lvl : Op → Nat) (stk : List (Tree Op α × Op)) (t u : Tree Op α)
    (h : WellGrouped lvl (reduceAll stk t)) (hu : WellGrouped lvl u) (htop : topOk lvl stk u) :
    WellGrouped lvl (reduceAll stk u) := by
  induction stk generalizing t u with
  | nil => exact hu
  | cons e stk ih =>
    obtain ⟨l, p⟩ := e
    simp only [reduceAll] at h ⊢
    have hn := wg_of_wg_reduceAll lvl stk _ h
    have ht := topOk_of_wg_reduceAll lvl stk _ h
    apply ih _ _ h
    · exact ⟨hn.1, htop, hn.2.2.1, hu⟩
    · exact topOk_node.2 (topOk_node.1 ht)

theorem wg_parseLoop (lvl : Op → Nat) (rest : List (Op × α)) (stk : List (Tree Op α × Op))
    (a : α) (h : WellGrouped lvl (reduceAll stk (.leaf a))) :
    WellGrouped lvl (parseLoop lvl stk (.leaf a) rest) := by
  induction rest generalizing stk a with
  | nil => simpa [parseLoop] using h
  | cons e rest ih =>
    obtain ⟨o, b⟩ := e
    simp only [parseLoop]
    apply ih
    simp only [reduceAll]
    obtain ⟨hred, hlt, hge⟩ := reduceWhile_spec lvl stk (.leaf a) o
    rw [← hred] at h
    apply wg_reduceAll_replace lvl _ _ _ h
    · exact ⟨hge trivial, trivial, wg_of_wg_reduceAll lvl _ _ h, trivial⟩
    · exact topOk_node.2 hlt

/-- `rest` is empty or starts with an operator whose level is `≤` the root level of `t`. -/
def nextOk (lvl : Op → Nat) (t : Tree Op α) : List (Op × α) → Prop
  | [] => True
  | (o, _) :: _ => rootGe lvl (lvl o) t

/-- Feeding the yield of a well-grouped tree `t` to the parser loop has the same effect as
starting with `t` already on top of the stack, provided the stack top binds looser than `t`'s
root and the next operator does not bind tighter than `t`'s root. -/
theorem parseLoop_yield (lvl : Op → Nat) (t : Tree Op α) :
    ∀ (stk : List (Tree Op α × Op)) (rest : List (Op × α)),
      WellGrouped lvl t → topOk lvl stk t → nextOk lvl t rest →
      parseLoop lvl stk (.leaf (yield t).1) ((yield t).2 ++ rest) = parseLoop lvl stk t rest := by
  induction t with
  | leaf a => intro stk rest _ _ _; simp [yield]
  | node p l r ihl ihr =>
    intro stk rest hwg htop hnext
    obtain ⟨hl, hr, hwl, hwr⟩ := hwg
    have hlt : topLt lvl (lvl p) stk := topOk_node.1 htop
    simp only [yield, List.append_assoc, List.cons_append]
    rw [ihl stk ((p, (yield r).1) :: ((yield r).2 ++ rest)) hwl (topOk_of_topLt_rootGe hlt hl) hl]
    simp only [parseLoop]
    rw [reduceWhile_of_topLt lvl stk l p hlt]
    have hnr : nextOk lvl r rest := by
      cases rest with
      | nil => trivial
      | cons e rest' =>
        obtain ⟨o, b⟩ := e
        exact rootGe_of_rootGt hr hnext
    rw [ihr ((l, p) :: stk) rest hwr hr hnr]
    cases rest with
    | nil => simp [parseLoop, reduceAll]
    | cons e rest' =>
      obtain ⟨o, b⟩ := e
      have hop : lvl o ≤ lvl p := hnext
      simp only [parseLoop]
      rw [reduceWhile_cons_of_le hop]

theorem chainOperands_append (lvl : Op → Nat) :
    ∀ (c : Chain Op α) (o : Op) (d : Chain Op α),
      chainOperands lvl (Chain.append c o d)
        = ((chainOperands lvl c).1,
           (chainOperands lvl c).2 ++ (o, (chainOperands lvl d).1) :: (chainOperands lvl d).2)
  | .one x, o, d => by simp [Chain.append, chainOperands]
  | .cons x p c, o, d => by
    simp [Chain.append, chainOperands, chainOperands_append lvl c o d]

/-- The tree over operands that the outer parser is expected to build for `unparse lvl e`:
the shape of `e`, cut off at the sub-expressions that `unparse` parenthesises (these become
operands). -/
def witness (lvl : Op → Nat) : Tree Op α → Tree Op (Tree Op α)
  | .leaf a => .leaf (.leaf a)
  | .node op l r =>
    .node op (if needsParenL lvl (lvl op) l then .leaf l else witness lvl l)
             (if needsParenR lvl (lvl op) r then .leaf r else witness lvl r)

theorem join_witness (lvl : Op → Nat) (e : Tree Op α) : join (witness lvl e) = e := by
  induction e with
  | leaf a => rfl
  | node op l r ihl ihr =>
    simp only [witness]
    split <;> split <;> simp [join, ihl, ihr]

theorem needsParenL_eq_false_iff {lvl : Op → Nat} {n : Nat} {t : Tree Op α} :
    needsParenL lvl n t = false ↔ rootGe lvl n t := by
  cases t <;> simp [needsParenL, rootGe]

theorem needsParenR_eq_false_iff {lvl : Op → Nat} {n : Nat} {t : Tree Op α} :
    needsParenR lvl n t = false ↔ rootGt lvl n t := by
  cases t <;> simp [needsParenR, rootGt]

theorem rootGe_witness {lvl : Op → Nat} {n : Nat} {t : Tree Op α} :
    rootGe lvl n (witness lvl t) ↔ rootGe lvl n t := by
  cases t <;> exact Iff.rfl

theorem rootGt_witness {lvl : Op → Nat} {n : Nat} {t : Tree Op α} :
    rootGt lvl n (witness lvl t) ↔ rootGt lvl n t := by
  cases t <;> exact Iff.rfl

theorem wg_witness (lvl : Op → Nat) (e : Tree Op α) : WellGrouped lvl (witness lvl e) := by
  induction e with
  | leaf a => trivial
  | node op l r ihl ihr =>
    refine ⟨?_, ?_, ?_, ?_⟩
    · cases h : needsParenL lvl (lvl op) l
      · exact rootGe_witness.2 (needsParenL_eq_false_iff.1 h)
      · trivial
    · cases h : needsParenR lvl (lvl op) r
      · exact rootGt_witness.2 (needsParenR_eq_false_iff.1 h)
      · trivial
    · split
      · trivial
      · exact ihl
    · split
      · trivial
      · exact ihr

def mapT {β : Type} (f : α → β) : Tree Op α → Tree Op β
  | .leaf a => .leaf (f a)
  | .node op l r => .node op (mapT f l) (mapT f r)

def mapStk {β : Type} (f : α → β) (stk : List (Tree Op α × Op)) : List (Tree Op β × Op) :=
  stk.map (fun e => (mapT f e.1, e.2))

theorem reduceWhile_map {β : Type} (f : α → β) (lvl : Op → Nat) (stk : List (Tree Op α × Op))
    (t : Tree Op α) (o : Op) :
    reduceWhile lvl (mapStk f stk) (mapT f t) o
      = (mapStk f (reduceWhile lvl stk t o).1, mapT f (reduceWhile lvl stk t o).2) := by
  induction stk generalizing t with
  | nil => rfl
  | cons e stk ih =>
    obtain ⟨l, p⟩ := e
    simp only [mapStk, List.map_cons, reduceWhile]
    split
    · exact ih (.node p l t)
    · rfl

theorem reduceAll_map {β : Type} (f : α → β) (stk : List (Tree Op α × Op)) (t : Tree Op α) :
    reduceAll (mapStk f stk) (mapT f t) = mapT f (reduceAll stk t) := by
  induction stk generalizing t with
  | nil => rfl
  | cons e stk ih =>
    obtain ⟨l, p⟩ := e
    simp only [mapStk, List.map_cons, reduceAll]
    exact ih (.node p l t)

theorem parseLoop_map {β : Type} (f : α → β) (lvl : Op → Nat) (rest : List (Op × α))
    (stk : List (Tree Op α × Op)) (cur : Tree Op α) :
    parseLoop lvl (mapStk f stk) (mapT f cur) (rest.map (fun e => (e.1, f e.2)))
      = mapT f (parseLoop lvl stk cur rest) := by
  induction rest generalizing stk cur with
  | nil => simp [parseLoop, reduceAll_map]
  | cons e rest ih =>
    obtain ⟨o, a⟩ := e
    simp only [List.map_cons, parseLoop, reduceWhile_map]
    exact ih ((((reduceWhile lvl stk cur o).2, o)) :: (reduceWhile lvl stk cur o).1) (.leaf a)

theorem join_mapT_leaf (t : Tree Op α) : join (mapT Tree.leaf t) = t := by
  induction t with
  | leaf a => rfl
  | node op l r ihl ihr => simp [mapT, join, ihl, ihr]

theorem chainOperands_ofList (lvl : Op → Nat) (rest : List (Op × α)) (a : α) :
    chainOperands lvl (Chain.ofList a rest)
      = (.leaf a, rest.map (fun e => (e.1, Tree.leaf e.2))) := by
  induction rest generalizing a with
  | nil => simp [Chain.ofList, chainOperands, parseOperand]
  | cons e rest ih =>
    obtain ⟨o, b⟩ := e
    simp [Chain.ofList, chainOperands, parseOperand, ih]

theorem ofList_append (xs : List (Op × α)) (a : α) (o : Op) (b : α) (ys : List (Op × α)) :
    Chain.append (Chain.ofList a xs) o (Chain.ofList b ys)
      = Chain.ofList a (xs ++ (o, b) :: ys) := by
  induction xs generalizing a with
  | nil => simp [Chain.ofList, Chain.append]
  | cons e xs ih =>
    obtain ⟨p, c⟩ := e
    simp [Chain.ofList, Chain.append, ih]

end Nsl.Prec
