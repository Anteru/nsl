import Nsl.Model.WasmEval
import Nsl.Proofs.WasmGen
import Nsl.Proofs.StepLemmas
import Nsl.Proofs.ScalarOps
/-!
# The generated code agrees with the VM on straight-line integer code

One simulation, `sim`, for the three classes of code C06 speaks of: same shape (`Straight`), different domain of
the VM run (`frameAll p`) and different reason why the selected instruction computes the same (`OpAgree`).
-/
namespace Nsl.Wasm
open Nsl.Leb VM

theorem wrap_wrap (x : Int) : wrap (wrap x) = wrap x := Int.emod_emod ..

theorem wrap_add (x y : Int) : wrap (wrap x + wrap y) = wrap (x + y) := (Int.add_emod ..).symm

theorem wrap_sub (x y : Int) : wrap (wrap x - wrap y) = wrap (x - y) := (Int.sub_emod ..).symm

theorem wrap_mul (x y : Int) : wrap (wrap x * wrap y) = wrap (x * y) := (Int.mul_emod ..).symm

theorem wrap_const (v : Int) : wrap (if 2 ^ 31 ≤ v then v - 2 ^ 32 else v) = wrap v := by
  split
  · exact Int.sub_emod_right v 4294967296
  · rfl

/-- Relation between a VM frame and the WebAssembly locals: arguments and defined references hold
integers, and the corresponding local holds the integer reduced modulo 2^32. -/
structure Inv {F : Type} (ents : List Entry) (argc : Nat) (fr : VM.Frame) (ls : List (WVal F)) :
    Prop where
  argsLen : fr.args.length = argc
  lsLen : ls.length = argc + ents.length
  args : ∀ (k : Nat) (v : Val), fr.args[k]? = some v →
    ∃ x : Int, v = Val.int x ∧ ls[k]? = some (WVal.i32 (wrap x))
  regs : ∀ (r : Nat) (v : Val), Map.get fr.regs r = some v →
    ∃ (x : Int) (j : Nat) (t : ITy), v = Val.int x ∧ lookupRef ents r = some (j, t) ∧
      ls[argc + j]? = some (WVal.i32 (wrap x))

theorem Inv.setReg {F : Type} {ents argc fr} {ls : List (WVal F)} (h : Inv ents argc fr ls)
    {dst j : Nat} {t : ITy} (hl : lookupRef ents dst = some (j, t)) (x : Int) :
    Inv ents argc (VM.setReg fr dst (.int x)) (ls.set (argc + j) (.i32 (wrap x))) := by
  have hj := lookupRef_lt hl
  refine ⟨h.argsLen, by simp [h.lsLen], ?_, ?_⟩
  · intro k v hk
    obtain ⟨y, hy, hls⟩ := h.args k v hk
    have hklt := (List.getElem?_eq_some_iff.1 hk).1
    have hne : argc + j ≠ k := by have := h.argsLen; simp only [VM.setReg] at hklt; omega
    exact ⟨y, hy, by rw [List.getElem?_set_ne hne]; exact hls⟩
  · intro r v hr
    simp only [VM.setReg] at hr
    by_cases hrd : dst = r
    · subst hrd
      rw [Map.get_set_eq] at hr
      cases hr
      exact ⟨x, j, t, rfl, hl, by rw [List.getElem?_set_self (by have := h.lsLen; omega)]⟩
    · rw [Map.get_set_ne _ _ _ _ hrd] at hr
      obtain ⟨y, j', t', hy, hl', hls⟩ := h.regs r v hr
      refine ⟨y, j', t', hy, hl', ?_⟩
      -- two references with the same local are the same reference
      have hne : argc + j ≠ argc + j' := by
        intro hc
        obtain rfl : j = j' := by omega
        have := lookupRef_getElem hl'
        rw [lookupRef_getElem hl] at this
        cases this
        exact hrd rfl
      rw [List.getElem?_set_ne hne]; exact hls

theorem Inv.setArg {F : Type} {ents argc fr} {ls : List (WVal F)} (h : Inv ents argc fr ls)
    {k : Nat} (hk : k < argc) (x : Int) :
    Inv ents argc { fr with args := fr.args.set k (.int x) } (ls.set k (.i32 (wrap x))) := by
  refine ⟨by simp [h.argsLen], by simp [h.lsLen], ?_, ?_⟩
  · intro k' v hk'
    simp only at hk'
    by_cases hkk : k = k'
    · subst hkk
      rw [List.getElem?_set_self (by have := h.argsLen; omega)] at hk'
      cases hk'
      exact ⟨x, rfl, by rw [List.getElem?_set_self (by have := h.lsLen; omega)]⟩
    · rw [List.getElem?_set_ne hkk] at hk'
      obtain ⟨y, hy, hls⟩ := h.args k' v hk'
      exact ⟨y, hy, by rw [List.getElem?_set_ne hkk]; exact hls⟩
  · intro r v hr
    obtain ⟨y, j, t, hy, hl, hls⟩ := h.regs r v hr
    have hne : k ≠ argc + j := by omega
    exact ⟨y, j, t, hy, hl, by rw [List.getElem?_set_ne hne]; exact hls⟩

theorem Inv.init {F : Type} (O : F32Ops F) {ents : List Entry} {vts : List VT} (args : List Int)
    (hvts : vts.length = ents.length) :
    Inv ents args.length { args := args.map Val.int }
      ((args.map fun a => WVal.i32 (F := F) (wrap a)) ++ vts.map (zeroOf O)) := by
  refine ⟨by simp, by simp [hvts], ?_, fun _ _ h => nomatch h⟩
  intro k v hk
  simp only [List.getElem?_map, Option.map_eq_some_iff] at hk
  obtain ⟨a, ha, rfl⟩ := hk
  have hklt := (List.getElem?_eq_some_iff.1 ha).1
  exact ⟨a, rfl, by rw [List.getElem?_append_left (by simpa using hklt)]; simp [ha]⟩

theorem Inv.opd_int {F : Type} {ents argc fr} {ls : List (WVal F)} (h : Inv ents argc fr ls)
    {o : Opd} {v : Val} (hr : ringOpd o = true) (hv : evalOpd fr o = .ok v) : ∃ x, v = .int x := by
  cases o with
  | ref r =>
    simp only [evalOpd] at hv
    split at hv <;> cases hv
    rename_i hg
    obtain ⟨x, _, _, hx, _⟩ := h.regs r v hg
    exact ⟨x, hx⟩
  | cInt c => cases hv; exact ⟨c, rfl⟩
  | cFlt f => cases hr

theorem Inv.evalVal {F : Type} {ents argc fr} {ls : List (WVal F)} (h : Inv ents argc fr ls)
    {o : Opd} (hr : ringOpd o = true) (g : Globals) : evalVal fr g o = evalOpd fr o := by
  cases hv : evalOpd fr o with
  | error e => exact evalVal_error hv
  | ok v =>
    obtain ⟨x, rfl⟩ := h.opd_int hr hv
    exact evalVal_of_noPtr hv rfl

section RunBody
variable {F : Type} {O : F32Ops F} {n : Nat} {is : List WInstr} {ls st : List (WVal F)}

theorem runBody_localGet {i : Nat} {v : WVal F} (h : ls[i]? = some v) :
    runBody O n (.localGet i :: is) ls st = runBody O n is ls (v :: st) := by
  simp only [runBody, h]

theorem runBody_localSet {i : Nat} {v : WVal F} (h : i < ls.length) :
    runBody O n (.localSet i :: is) ls (v :: st) = runBody O n is (ls.set i v) st := by
  simp only [runBody, h, if_true]

theorem runBody_num {op : NumOp} {a b r : WVal F} (h : evalNum O op a b = some r) :
    runBody O n (.num op :: is) ls (b :: a :: st) = runBody O n is ls (r :: st) := by
  simp only [runBody, h]

end RunBody

theorem Push.run {F : Type} (O : F32Ops F) {fb ents argc fr} {ls : List (WVal F)} {o w x}
    (hinv : Inv ents argc fr ls) (hp : Push fb argc ents o w) (hv : evalOpd fr o = .ok (.int x)) :
    ∀ n rest st, runBody O n (w :: rest) ls st = runBody O n rest ls (.i32 (wrap x) :: st) := by
  cases hp with
  | cInt _ => cases hv; intro n rest st; rfl
  | cFlt _ => cases hv
  | ref hl =>
    simp only [evalOpd] at hv
    split at hv <;> cases hv
    rename_i hg
    obtain ⟨x', j, t, hx, hl', hls⟩ := hinv.regs _ _ hg
    cases hx
    rw [hl] at hl'; cases hl'
    exact fun n rest st => runBody_localGet hls

/-- The start frame is not constrained (a checked run tests after each step): `D fr` is assumed where needed. -/
inductive Reaches (D : Frame → Prop) (P : Program) (f : Func) :
    Nat → Nat → Frame → Globals → Val → Globals → List Val → Prop
  | ret {n pc fr g v g' as} : stepI (callD P n) f.code pc fr g = .ret v g' as →
      Reaches D P f (n + 1) pc fr g v g' as
  | next {n pc fr g pc' fr' g1 v g' as} : stepI (callD P n) f.code pc fr g = .next pc' fr' g1 →
      D fr' → Reaches D P f n pc' fr' g1 v g' as → Reaches D P f (n + 1) pc fr g v g' as

theorem Reaches.run {D : Frame → Prop} {P : Program} {f : Func} {n pc fr g v g' as}
    (h : Reaches D P f n pc fr g v g' as) : VM.run P n f pc fr g = .done v g' as := by
  induction h with
  | ret h => rw [run_succ, h]
  | next h _ _ ih => rw [run_succ, h]; exact ih

theorem Reaches.of_run {D : Frame → Prop} (hD : ∀ fr, D fr) {P : Program} {f : Func}
    {n pc fr g v g' as} (h : VM.run P n f pc fr g = .done v g' as) :
    Reaches D P f n pc fr g v g' as := by
  induction n generalizing pc fr g with
  | zero => rw [run_zero] at h; cases h
  | succ n ih =>
    rw [run_succ] at h
    split at h
    · rename_i hs; exact .next hs (hD _) (ih h)
    · rename_i hs; cases h; exact .ret hs
    · cases h

def frameAll (p : Val → Bool) (fr : Frame) : Prop :=
  (fr.args.all p && fr.regs.all fun q => p q.2) = true

theorem frameAll.reg {p : Val → Bool} {fr : Frame} (h : frameAll p fr) {r : Nat} {v : Val}
    (hr : Map.get fr.regs r = some v) : p v = true := by
  simp only [frameAll, Bool.and_eq_true, List.all_eq_true] at h
  exact h.2 _ (Map.mem_of_get hr)

theorem frameAll.trivial (fr : Frame) : frameAll (fun _ => true) fr := by
  simp [frameAll]

theorem frameAll.init {p : Val → Bool} {args : List Int} (h : ∀ a ∈ args, p (.int a) = true) :
    frameAll p { args := args.map Val.int } := by
  simpa [frameAll, List.all_eq_true] using h

/-- `hc`: why a constant that the generator accepts (a signed 32-bit one) satisfies `p`. -/
theorem Push.range {p : Val → Bool} {fb argc ents} {fr : Frame} {o : Opd} {w : WInstr} {x : Int}
    (hfr : frameAll p fr) (hc : ∀ c, o = .cInt c → -2 ^ 31 ≤ c ∧ c < 2 ^ 31 → p (.int c) = true)
    (hp : Push fb argc ents o w) (hv : evalOpd fr o = .ok (.int x)) : p (.int x) = true := by
  cases hp with
  | cInt hr => cases hv; exact hc _ rfl hr
  | cFlt _ => cases hv
  | ref _ =>
    simp only [evalOpd] at hv
    split at hv <;> cases hv
    rename_i hg
    exact hfr.reg hg

inductive Straight (T : ITy → Prop) (A : Opd → Prop) (B : SOp → Opd → Prop) : Instr → Prop
  | label {l : Nat} : Straight T A B (.label l)
  | load {dst : Nat} {ty : ITy} {i : Nat} : T ty → Straight T A B (.load dst ty .arg (.index i))
  | store {i : Nat} {src : Opd} : A src → Straight T A B (.store .arg (.index i) src)
  | bin {dst : Nat} {op : SOp} {ty : ITy} {a b : Opd} : T ty → A a → A b → B op a →
      Straight T A B (.bin dst (.s op) ty a b)
  | ret {v : Opd} : A v → Straight T A B (.ret (some v))

structure OpAgree {F : Type} (O : F32Ops F) (ents : List Entry) (p : Val → Bool) (T : ITy → Prop)
    (A : Opd → Prop) (B : SOp → Opd → Prop) : Prop where
  /-- the types are i32 types -/
  i32 : ∀ {ty}, T ty → isI32Ty ty = true
  /-- the operands are references or integer constants -/
  opd : ∀ {o}, A o → ringOpd o = true
  /-- a constant that the generator accepts lies in the domain -/
  const : ∀ {c}, A (.cInt c) → -2 ^ 31 ≤ c ∧ c < 2 ^ 31 → p (.int c) = true
  /-- `nop` was selected, the VM computed `zv`, and `zv` lies in the domain again (it was written to a reference;
  for signed code this excludes `-2^31 / -1`) -/
  bin : ∀ {op ty a nop x y zv}, T ty → A a → B op a → p (.int x) = true → p (.int y) = true →
    selectOp ents op ty a = .ok nop → scalarBin op true (.int x) (.int y) = .ok zv → p zv = true →
    ∃ z, zv = .int z ∧ evalNum O nop (.i32 (wrap x)) (.i32 (wrap y)) = some (.i32 (wrap z))

theorem isI32Ty_cases {ty : ITy} (h : isI32Ty ty = true) : ty = .sc .int ∨ ty = .sc .uint := by
  unfold isI32Ty at h
  split at h
  · exact .inl rfl
  · exact .inr rfl
  · cases h

theorem binExec_i32 {op : SOp} {ty : ITy} (h : isI32Ty ty = true) (x y : Val) :
    binExec (.s op) ty x y = scalarBin op true x y := by
  rcases isI32Ty_cases h with rfl | rfl <;> rfl

theorem isI32Ty_notAgg {ty : ITy} (h : isI32Ty ty = true) : ty.isAggregate = false := by
  rcases isI32Ty_cases h with rfl | rfl <;> rfl

/-- One instruction on which the VM does not fail: it goes on, or it returns an integer. -/
theorem sim_step {F : Type} {O : F32Ops F} {fb argc ents p T A B} (I : OpAgree O ents p T A B)
    {cf code pc fr g out i ws} {ls : List (WVal F)} (hi : Straight T A B i)
    (ht : Trans fb argc ents i ws) (hc : code[pc]? = some i) (hinv : Inv ents argc fr ls)
    (hD : frameAll p fr) (h : stepI cf code pc fr g = out) (hn : ∀ e, out ≠ .fail e) :
    (∃ fr', out = .next (pc + 1) fr' g ∧ (frameAll p fr' → ∃ ls', Inv ents argc fr' ls' ∧
        ∀ rest, runBody O 1 (ws ++ rest) ls [] = runBody O 1 rest ls' [])) ∨
    (∃ x, out = .ret (.int x) g fr.args ∧
        ∀ rest, runBody O 1 (ws ++ rest) ls [] = some [.i32 (wrap x)]) := by
  cases hi with
  | label =>
    cases ht
    rw [stepI_label hc] at h
    exact .inl ⟨fr, h.symm, fun _ => ⟨ls, hinv, fun _ => rfl⟩⟩
  | load hT =>
    cases ht with | @load _ _ _ k _ hl =>
    obtain ⟨v, ha, rfl⟩ := step_load_arg_inv hc (isI32Ty_notAgg (I.i32 hT)) h hn
    obtain ⟨x, rfl, hls⟩ := hinv.args _ v ha
    have hlt : argc + k < ls.length := by have := hinv.lsLen; have := lookupRef_lt hl; omega
    refine .inl ⟨_, rfl, fun _ => ⟨_, hinv.setReg hl x, fun rest => ?_⟩⟩
    simp only [List.cons_append, List.nil_append, runBody_localGet hls, runBody_localSet hlt]
  | @store k _ hA =>
    cases ht with | store hp =>
    obtain ⟨v, hv, hk, rfl⟩ := step_store_arg_inv hc h hn
    obtain ⟨x, rfl⟩ := hinv.opd_int (I.opd hA) hv
    have hk' : k < argc := hinv.argsLen ▸ hk
    have hlt : k < ls.length := by have := hinv.lsLen; omega
    refine .inl ⟨_, rfl, fun _ => ⟨_, hinv.setArg hk' x, fun rest => ?_⟩⟩
    simp only [List.cons_append, List.nil_append, hp.run O hinv hv, runBody_localSet hlt]
  | @bin dst _ _ _ _ hT hAa hAb hB =>
    cases ht with | @bin _ _ _ _ _ _ _ _ k _ hsel hpa hpb hl =>
    obtain ⟨vx, vy, zv, hva, hvb, hz, rfl⟩ := step_bin_inv hc h hn
    rw [hinv.evalVal (I.opd hAa)] at hva
    rw [hinv.evalVal (I.opd hAb)] at hvb
    obtain ⟨x, rfl⟩ := hinv.opd_int (I.opd hAa) hva
    obtain ⟨y, rfl⟩ := hinv.opd_int (I.opd hAb) hvb
    rw [binExec_i32 (I.i32 hT)] at hz
    have hlt : argc + k < ls.length := by have := hinv.lsLen; have := lookupRef_lt hl; omega
    refine .inl ⟨_, rfl, fun hD' => ?_⟩
    have hx := hpa.range hD (fun c hc => I.const (hc ▸ hAa)) hva
    have hy := hpb.range hD (fun c hc => I.const (hc ▸ hAb)) hvb
    have hzv : p zv = true := hD'.reg (r := dst) (Map.get_set_eq ..)
    obtain ⟨z, rfl, hev⟩ := I.bin hT hAa hB hx hy hsel hz hzv
    refine ⟨_, hinv.setReg hl z, fun rest => ?_⟩
    simp only [List.cons_append, List.nil_append, hpa.run O hinv hva, hpb.run O hinv hvb,
      runBody_num hev, runBody_localSet hlt]
  | ret hA =>
    cases ht with | retSome hp =>
    obtain ⟨v, hv, rfl⟩ := step_ret_some_inv hc h hn
    rw [hinv.evalVal (I.opd hA)] at hv
    obtain ⟨x, rfl⟩ := hinv.opd_int (I.opd hA) hv
    refine .inr ⟨x, rfl, fun rest => ?_⟩
    simp only [List.cons_append, hp.run O hinv hv]
    rfl

theorem sim {F : Type} {O : F32Ops F} {fb argc ents p T A B} (I : OpAgree O ents p T A B)
    {f : Func} {Pg : Program} {suf pre : List Instr} (hcode : f.code = pre ++ suf)
    (hS : ∀ i ∈ suf, Straight T A B i) {body : List WInstr}
    (hbody : transCode fb argc ents suf = .ok body) {n : Nat} {fr : Frame} {g : Globals}
    {ls : List (WVal F)} (hinv : Inv ents argc fr ls) (hD : frameAll p fr) {v : Int} {g' : Globals}
    {as : List Val} (hr : Reaches (frameAll p) Pg f n pre.length fr g (.int v) g' as) :
    runBody O 1 body ls [] = some [.i32 (wrap v)] := by
  induction suf generalizing pre body n fr g ls with
  | nil =>
    -- past the end of the code the VM returns `None`
    have hc : f.code[pre.length]? = none := by simp [hcode]
    cases hr with
    | ret h => rw [stepI_none hc] at h; cases h
    | next h _ _ => rw [stepI_none hc] at h; cases h
  | cons i rest ih =>
    obtain ⟨ws, restb, h1, h2, rfl⟩ := transCode_cons_ok hbody
    have hc : f.code[pre.length]? = some i := by simp [hcode]
    have hi := hS i (List.mem_cons_self ..)
    cases hr with
    | ret h =>
      rcases sim_step I hi h1 hc hinv hD h (fun _ h => nomatch h) with ⟨_, he, _⟩ | ⟨x, he, hrun⟩
      · cases he
      · cases he; exact hrun restb
    | next h hD' hr' =>
      rcases sim_step I hi h1 hc hinv hD h (fun _ h => nomatch h) with ⟨fr', he, hk⟩ | ⟨_, he, _⟩
      · cases he
        obtain ⟨ls', hinv', hrun⟩ := hk hD'
        rw [hrun]
        have hlen : (pre ++ [i]).length = pre.length + 1 := by simp
        exact ih (pre := pre ++ [i]) (by rw [hcode, List.append_assoc]; rfl)
          (fun j hj => hS j (List.mem_cons_of_mem _ hj)) h2 hinv' hD' (hlen ▸ hr')
      · cases he

theorem nonVoid_ty {r : Option Nat} {ty : ITy} {e : Entry} (h : nonVoid r ty = some e) : e.2 = ty := by
  unfold nonVoid at h
  split at h <;> cases h
  rfl

theorem Straight.entry {T A B i} {params : List (String × ITy)} {e : Entry} (hi : Straight T A B i)
    (hp : ∀ p ∈ params, T p.2) (he : instrEntry params i = .ok (some e)) : T e.2 := by
  cases hi with
  | label => cases he
  | load hT => simp only [instrEntry, Except.ok.injEq] at he; exact nonVoid_ty he ▸ hT
  | store _ =>
    simp only [instrEntry] at he
    split at he
    · rename_i hk
      simp only [Except.ok.injEq] at he
      exact nonVoid_ty he ▸ hp _ (List.mem_of_getElem? hk)
    · cases he
  | bin hT _ _ _ => simp only [instrEntry, Except.ok.injEq] at he; exact nonVoid_ty he ▸ hT
  | ret _ => cases he

theorem collectEntries_all {T A B} {params : List (String × ITy)} (hp : ∀ p ∈ params, T p.2)
    {code : List Instr} {acc ents : List Entry} (hc : ∀ i ∈ code, Straight T A B i)
    (ha : ∀ e ∈ acc, T e.2) (h : collectEntries params code acc = .ok ents) : ∀ e ∈ ents, T e.2 := by
  induction code generalizing acc with
  | nil => cases h; exact ha
  | cons i is ih =>
    have his := fun j hj => hc j (List.mem_cons_of_mem _ hj)
    rw [collectEntries] at h
    split at h
    · cases h
    · exact ih his ha h
    · rename_i e he
      refine ih his ?_ h
      have hadd : ∀ e' ∈ acc ++ [e], T e'.2 := by
        intro e' h'
        rcases List.mem_append.1 h' with h' | h'
        · exact ha e' h'
        · cases List.mem_singleton.1 h'; exact (hc i (List.mem_cons_self ..)).entry hp he
      unfold addEntry
      split
      · split
        · exact ha
        · exact hadd
      · exact hadd

theorem convertVTs_i32 : ∀ (tys : List ITy), (∀ t ∈ tys, isI32Ty t = true) →
    convertVTs tys = .ok (List.replicate tys.length .i32)
  | [], _ => rfl
  | t :: ts, h => by
    have ht : convertVT t = .ok .i32 := by
      rcases isI32Ty_cases (h t (List.mem_cons_self ..)) with rfl | rfl <;> rfl
    rw [convertVTs, ht, convertVTs_i32 ts fun t' h' => h t' (List.mem_cons_of_mem _ h')]
    rfl

theorem convertFuncType_i32 {f : Func} (hp : ∀ p ∈ f.params, isI32Ty p.2 = true)
    (hr : isI32Ty f.ret = true) :
    convertFuncType f = .ok ⟨List.replicate f.params.length .i32, [.i32]⟩ := by
  have hps := convertVTs_i32 (f.params.map (·.2)) fun t ht => by
    obtain ⟨p, hp', rfl⟩ := List.mem_map.1 ht
    exact hp p hp'
  rw [List.length_map] at hps
  unfold convertFuncType
  rw [hps]
  rcases isI32Ty_cases hr with h | h <;> rw [h] <;> rfl

theorem agree_straight {F : Type} (O : F32Ops F) {fb : Float → Option Nat} {p T A B} {P : List Func}
    {m : WModule} {idx : Nat} {f : Func}
    (I : ∀ ents, (∀ e ∈ ents, T e.2) → OpAgree O ents p T A B)
    (hgen : genWasmWith fb P = .ok m) (hf : P[idx]? = some f) (hp : ∀ q ∈ f.params, T q.2)
    (hr : T f.ret) (hS : ∀ i ∈ f.code, Straight T A B i) (args : List Int)
    (hlen : args.length = f.params.length) (hD : ∀ a ∈ args, p (.int a) = true)
    {Pg : Program} {n : Nat} {g g' : Globals} {v : Int} {as : List Val}
    (hvm : Reaches (frameAll p) Pg f n 0 { args := args.map Val.int } g (.int v) g' as) :
    evalFunc O m idx (args.map fun a => WVal.i32 (wrap a)) = some [WVal.i32 (wrap v)] := by
  obtain ⟨ft, c, hgf, htypes, hfuncs, hcodes⟩ := genWasmWith_getElem hgen hf
  obtain ⟨ents, vts, body, h1, h2, h3, h4, _, rfl⟩ := genFunc_ok hgf
  have hents := collectEntries_all (acc := []) hp hS (fun _ h => nomatch h) h2
  have hi32 := fun {ty} => (I ents hents).i32 (ty := ty)
  rw [convertFuncType_i32 (fun q h => hi32 (hp q h)) (hi32 hr)] at h1
  cases h1
  have hargs : (args.map fun a => WVal.i32 (F := F) (wrap a)).map WVal.vt =
      List.replicate f.params.length .i32 := by
    rw [← hlen, List.map_map]
    exact List.map_const' ..
  simp only [evalFunc, hfuncs, hcodes, htypes, hargs, if_true, expand_groupLocals,
    List.length_cons, List.length_nil]
  have hvts : vts.length = ents.length := by simpa using map_ok_length (convertVTs_ok h3)
  rw [List.length_replicate] at h4
  exact sim (I ents hents) (pre := []) rfl hS h4 (hlen ▸ Inv.init O args hvts) (.init hD) hvm

theorem scalarBin_int {o : SOp} {x y : Int} {z : Val}
    (h : scalarBin o true (.int x) (.int y) = .ok z) : ∃ k, z = .int k := by
  rcases Val.isNum_iff.1 (scalarBin_ok_num h) with hk | ⟨f, rfl⟩
  · exact hk
  · rcases scalarBin_flt h with ⟨_, hit⟩ | ⟨_, hxy⟩
    · cases hit
    · exact absurd ⟨x, y, rfl, rfl⟩ hxy

theorem binop_agree_ring {F : Type} (O : F32Ops F) {op : SOp} {nop : NumOp} {x y z : Int}
    (hop : (op == .add || op == .sub || op == .mul) = true) (hsel : numOpFor op .i32s = .ok nop)
    (hvm : scalarBin op true (.int x) (.int y) = .ok (.int z)) :
    evalNum O nop (.i32 (wrap x)) (.i32 (wrap y)) = some (.i32 (wrap z)) := by
  cases op <;> cases hop <;> cases hsel <;> cases hvm
  · exact congrArg (some ∘ WVal.i32) (wrap_add x y)
  · exact congrArg (some ∘ WVal.i32) (wrap_sub x y)
  · exact congrArg (some ∘ WVal.i32) (wrap_mul x y)

theorem ringInstr_straight {i : Instr} (h : ringInstr i = true) :
    Straight (isI32Ty · = true) (ringOpd · = true)
      (fun op _ => (op == .add || op == .sub || op == .mul) = true) i := by
  unfold ringInstr at h
  split at h
  · exact .label
  · exact .load h
  · exact .store h
  · simp only [Bool.and_eq_true] at h
    exact .bin h.1.1.2 h.1.2 h.2 h.1.1.1
  · exact .ret h
  · cases h

/-- `i32s` and `i32u` give the same opcode for `+ - *`. -/
theorem selectOp_ring {ents : List Entry} {op : SOp} {ty : ITy} {a : Opd} {nop : NumOp}
    (hop : (op == .add || op == .sub || op == .mul) = true) (hty : isI32Ty ty = true)
    (h : selectOp ents op ty a = .ok nop) : numOpFor op .i32s = .ok nop := by
  rcases isI32Ty_cases hty with rfl | rfl <;> cases op <;> cases hop <;> exact h

theorem opAgree_ring {F : Type} (O : F32Ops F) (ents : List Entry) :
    OpAgree O ents (fun _ => true) (isI32Ty · = true) (ringOpd · = true)
      (fun op _ => (op == .add || op == .sub || op == .mul) = true) where
  i32 := id
  opd := id
  const := fun _ _ => rfl
  bin := by
    intro op ty a nop x y zv hT _ hB _ _ hsel hz _
    obtain ⟨z, rfl⟩ := scalarBin_int hz
    exact ⟨z, rfl, binop_agree_ring O hB (selectOp_ring hB hT hsel) hz⟩

end Nsl.Wasm
