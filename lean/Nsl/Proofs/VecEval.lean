import Nsl.Proofs.VecExpr
/-!
# Vector core: the expression step `esim_succV` and the argument-list step `asim_succV`
-/
namespace Nsl
namespace Vec
open Core VM CoreSem Lower Sim

theorem esim_succV (M : Core.Module) (n : Nat) (ihE : ESimV M n) (ihA : ASimV M n) (ihSt : StSimV M n)
    (ihC : CSim (mdisc M) n) : ESimV M (n + 1) := by
  intro code ps Γ e fr g v fr' g' h hok hf hg k c o k' q ρ hl hat
  cases e with
  | litI i =>
    cases evalE_litI ▸ h
    simp only [lowerE, Prod.mk.injEq] at hl
    obtain ⟨rfl, rfl, rfl⟩ := hl
    exact ⟨ρ, Run.nil _, rfl, rfl, hf, hg⟩
  | litF f =>
    cases evalE_litF ▸ h
    simp only [lowerE, Prod.mk.injEq] at hl
    obtain ⟨rfl, rfl, rfl⟩ := hl
    exact ⟨ρ, Run.nil _, rfl, rfl, hf, hg⟩
  | var sc key ty =>
    simp only [okEV, Bool.and_eq_true, beq_iff_eq] at hok
    obtain ⟨root, hroot, hr, rfl, rfl⟩ := evalE_var_inv h
    simp only [lowerE, Prod.mk.injEq] at hl
    obtain ⟨rfl, rfl, rfl⟩ := hl
    have hstep := step_load (cf := callD (lowerModule M) 0) (g := g') (fr := vf ρ fr') hat.head hroot
      (by rw [readRoot_vf]; exact hr) (nonagg_of_shape hok.1)
    exact ⟨Map.set ρ k v, Run.reg hstep (Nat.le_refl k), evalOpd_vf_set ..,
      readRoot_fits hok.2 hroot hr hf hg, hf, hg⟩
  | bin op ty l r =>
    simp only [okEV, Bool.and_eq_true] at hok
    obtain ⟨⟨hbin, hokl⟩, hokr⟩ := hok
    obtain ⟨a, fr1, g1, b, h1, h2, h3⟩ := evalE_bin_inv h
    rcases hel : lowerE l k with ⟨cl, vl, k1⟩
    rcases her : lowerE r k1 with ⟨cr, vr, k2⟩
    have le1 := lowerE_mono l k cl vl k1 hel
    have le2 := lowerE_mono r k1 cr vr k2 her
    have ob1 := lowerE_below l k cl vl k1 hel
    rw [lowerE_bin op ty l r k hel her] at hl
    simp only [Prod.mk.injEq] at hl
    obtain ⟨rfl, rfl, rfl⟩ := hl
    obtain ⟨ρ1, r1, e1, t1, hf1, hg1⟩ :=
      ihE h1 hokl hf hg ρ hel hat.left.left
    obtain ⟨ρ2, r2, e2, t2, hf2, hg2⟩ :=
      ihE h2 hokr hf1 hg1 ρ1 her hat.left.right
    have hcase := okBin_cases hbin
    obtain ⟨ρ3, r3, e3⟩ := bin_tail (lowerModule M) (g := g') hcase t1 t2 h3 (r2.opd e1 ob1) e2 (ob1.mono le2)
      (lowerE_below r k1 cr vr k2 her) hat.right
    exact ⟨ρ3, (r1.append r2 le1).append r3 (Nat.le_trans le1 le2), e3, binSem_typed hcase t1 t2 h3, hf2, hg2⟩
  | cast ty x =>
    simp only [okEV, Bool.and_eq_true] at hok
    obtain ⟨a, h1, h3⟩ := evalE_cast_inv h
    rcases hel : lowerE x k with ⟨cl, vl, k1⟩
    have le1 := lowerE_mono x k cl vl k1 hel
    simp only [lowerE, hel, Prod.mk.injEq] at hl
    obtain ⟨rfl, rfl, rfl⟩ := hl
    obtain ⟨ρ1, r1, e1, t1, hf1, hg1⟩ := ihE h1 hok.2 hf hg ρ hel hat.left
    have hstep := step_cast (cf := callD (lowerModule M) 0) (g := g') hat.right.head e1 (fits_noPtr t1) h3
    exact ⟨Map.set ρ1 k1 v, r1.append (Run.reg hstep (Nat.le_refl k1)) le1, evalOpd_vf_set ..,
      castExec_typed hok.1 t1 h3, hf1, hg1⟩
  | assign lhs rhs =>
    simp only [okEV, Bool.and_eq_true, beq_iff_eq] at hok
    obtain ⟨⟨⟨hform, hsh⟩, hoklhs⟩, hokrhs⟩ := hok
    obtain ⟨fr1, g1, w, h1, h2⟩ := evalE_assign_inv h
    rcases hel : lowerE rhs k with ⟨cl, vl, k1⟩
    rcases hes : lowerStore lhs vl k1 with ⟨cs, k2⟩
    have ob1 := lowerE_below rhs k cl vl k1 hel
    have le1 := lowerE_mono rhs k cl vl k1 hel
    simp only [lowerE, hel, hes, Prod.mk.injEq] at hl
    obtain ⟨rfl, rfl, rfl⟩ := hl
    obtain ⟨ρ1, r1, e1, t1, hf1, hg1⟩ :=
      ihE h1 hokrhs hf hg ρ hel hat.left
    have t1' : fits (shape (Expr.ty lhs)) v = true := hsh ▸ t1
    obtain ⟨ρ2, r2, hf2, hg2⟩ :=
      ihSt h2 hform hoklhs t1' hf1 hg1 ρ1 hes hat.right e1 ob1
    exact ⟨ρ2, r1.append r2 le1, r2.opd e1 ob1, t1', hf2, hg2⟩
  | affix post inc x =>
    simp only [okEV, Bool.and_eq_true] at hok
    obtain ⟨⟨hform, hsc⟩, hokx⟩ := hok
    obtain ⟨old, fr1, g1, new, w, h1, h3, h2, rfl⟩ := evalE_affix_inv h
    rcases hel : lowerE x k with ⟨cl, vl, k1⟩
    rcases hes : lowerStore x (.ref k1) (k1 + 1) with ⟨cs, k2⟩
    have ob1 := lowerE_below x k cl vl k1 hel
    have le1 := lowerE_mono x k cl vl k1 hel
    simp only [lowerE, hel, hes, Prod.mk.injEq] at hl
    obtain ⟨rfl, rfl, rfl⟩ := hl
    obtain ⟨ρ1, r1, e1, t1, hf1, hg1⟩ :=
      ihE h1 hokx hf hg ρ hel hat.left.left
    have hnew : fits (shape (Expr.ty x)) new = true := fits_shape_atom hsc (scalarBin_atom h3)
    have st1 := step_bin (cf := callD (lowerModule M) 0) (g := g1) (fr := vf ρ1 fr1) hat.left.right.head
      (y := .int 1) e1 (fits_noPtr t1) rfl rfl h3
    obtain ⟨ρ2, r2, hf2, hg2⟩ :=
      ihSt h2 hform hokx hnew hf1 hg1 (Map.set ρ1 k1 new) hes hat.right (evalOpd_vf_set ..) (Nat.lt_succ_self k1)
    refine ⟨ρ2, (r1.append (Run.reg st1 (Nat.le_refl k1)) le1).append r2 (Nat.le_succ_of_le le1), ?_, ?_, hf2, hg2⟩
    · -- the old value sits in the operand of `x`, the new one in `k1`; the store leaves both alone
      cases post
      · exact r2.opd (evalOpd_vf_set ..) (Nat.lt_succ_self k1)
      · exact r2.opd (evalOpd_frame e1 ob1 (fun r hr => Map.get_set_ne _ _ _ _ (Nat.ne_of_gt hr)))
          (ob1.mono (Nat.le_succ k1))
    · cases post
      · exact hnew
      · exact t1
  | call fn ty args =>
    simp only [okEV, Bool.and_eq_true] at hok
    obtain ⟨hsig, hokargs⟩ := hok
    cases hfn : findFn M fn with
    | none => simp [hfn] at hsig
    | some callee =>
      simp only [hfn, Bool.and_eq_true, beq_iff_eq] at hsig
      obtain ⟨vs, g1, as, h1, h2⟩ := evalE_call_inv h
      rcases hel : lowerArgs args k with ⟨cl, os, k1⟩
      have le1 := lowerArgs_mono args k cl os k1 hel
      simp only [lowerE, hel, Prod.mk.injEq] at hl
      obtain ⟨rfl, rfl, rfl⟩ := hl
      obtain ⟨ρ1, r1, e1, ta, hf1, hg1⟩ :=
        ihA h1 hokargs hf hg ρ hel hat.left
      have hfit : ∀ f, findFn M fn = some f → ArgsFit f.params vs := fun f hf' => by
        cases hfn.symm.trans hf'
        exact argsMatch_fit _ _ _ hsig.2 ta
      obtain ⟨d, hcall, hret, hg2⟩ := ihC h2 hfit hg1
      have hstep := step_call (cf := callD (lowerModule M) d) hat.right.head (evalVals_of_noPtr e1) hcall
      exact ⟨Map.set ρ1 k1 v, r1.append (Run.reg hstep (Nat.le_refl k1)) le1, evalOpd_vf_set ..,
        hsig.1 ▸ hret callee hfn, hf1, hg2⟩
  | index kd ty base idx =>
    simp only [okEV, Bool.and_eq_true] at hok
    obtain ⟨⟨hidx, hokb⟩, hoki⟩ := hok
    have hkd : kd ≠ .arr := by rintro rfl; simp [okIdx] at hidx
    obtain ⟨b, fr1, g1, i, kk, h1, h2, hki, hx⟩ := evalE_index_inv hkd h
    rcases hel : lowerE base k with ⟨cb, vb, k1⟩
    rcases her : lowerE idx k1 with ⟨ci, vi, k2⟩
    have le1 := lowerE_mono base k cb vb k1 hel
    have le2 := lowerE_mono idx k1 ci vi k2 her
    simp only [lowerE, hel, her, Prod.mk.injEq] at hl
    obtain ⟨rfl, rfl, rfl⟩ := hl
    obtain ⟨ρ1, r1, e1, t1, hf1, hg1⟩ :=
      ihE h1 hokb hf hg ρ hel hat.left.left
    obtain ⟨ρ2, r2, e2, t2, hf2, hg2⟩ :=
      ihE h2 hoki hf1 hg1 ρ1 her hat.left.right
    have e1' := r2.opd e1 (lowerE_below base k cb vb k1 hel)
    -- `vecGet` and `matGet` are the same branch of the VM; the element has the shape the checker demands
    have hkind : stepI (callD (lowerModule M) 0) code (q + (cb ++ ci).length) (vf ρ2 fr') g' =
        .next (q + (cb ++ ci).length + 1) (setReg (vf ρ2 fr') k2 v) g' ∧ fits (shape ty) v = true := by
      cases kd with
      | arr => exact absurd rfl hkd
      | vec =>
        obtain ⟨nn, hbt, hty, _⟩ := okIdx_vec hidx
        exact ⟨step_vecGet hat.right.head e1' (fits_noPtr t1) e2 (fits_noPtr t2) hki hx,
          by rw [hty, fits_atom]; exact getKey_vec (hbt ▸ t1) hx⟩
      | mat =>
        obtain ⟨rr, cc, hbt, hty, _⟩ := okIdx_mat hidx
        exact ⟨step_matGet hat.right.head e1' (fits_noPtr t1) e2 (fits_noPtr t2) hki hx,
          by rw [hty, fits_vec]; exact getKey_mat (hbt ▸ t1) hx⟩
    exact ⟨Map.set ρ2 k2 v, (r1.append r2 le1).append (Run.reg hkind.1 (Nat.le_refl k2)) (Nat.le_trans le1 le2),
      evalOpd_vf_set .., hkind.2, hf2, hg2⟩
  | member ty b f => simp [okEV] at hok
  | swizzle ty base idxs =>
    simp only [okEV, Bool.and_eq_true] at hok
    obtain ⟨⟨hvec, hswz⟩, hokb⟩ := hok
    obtain ⟨sb, nb, hbt⟩ := isVector_shape hvec
    obtain ⟨b, h1, h3⟩ := evalE_swizzle_inv h
    rcases hel : lowerE base k with ⟨cl, vl, k1⟩
    have le1 := lowerE_mono base k cl vl k1 hel
    simp only [lowerE, hel, Prod.mk.injEq] at hl
    obtain ⟨rfl, rfl, rfl⟩ := hl
    obtain ⟨ρ1, r1, e1, t1, hf1, hg1⟩ := ihE h1 hokb hf hg ρ hel hat.left
    have hstep := step_shuffle (cf := callD (lowerModule M) 0) (g := g') hat.right.head e1 (fits_noPtr t1) e1
      (fits_noPtr t1) h3
    rw [hbt, shape] at t1
    exact ⟨Map.set ρ1 k1 v, r1.append (Run.reg hstep (Nat.le_refl k1)) le1, evalOpd_vf_set ..,
      shuffleExec_read_typed t1 hswz h3, hf1, hg1⟩
  | construct ty args =>
    simp only [okEV, Bool.and_eq_true] at hok
    obtain ⟨hcons, hokargs⟩ := hok
    obtain ⟨vs, h1, h3⟩ := evalE_construct_inv h
    rcases hel : lowerArgs args k with ⟨cl, os, k1⟩
    have le1 := lowerArgs_mono args k cl os k1 hel
    simp only [lowerE, hel, Prod.mk.injEq] at hl
    obtain ⟨rfl, rfl, rfl⟩ := hl
    obtain ⟨ρ1, r1, e1, ta, hf1, hg1⟩ :=
      ihA h1 hokargs hf hg ρ hel hat.left
    have hstep := step_construct (cf := callD (lowerModule M) 0) (g := g') hat.right.head e1 h3
    exact ⟨Map.set ρ1 k1 v, r1.append (Run.reg hstep (Nat.le_refl k1)) le1, evalOpd_vf_set ..,
      constructExec_typed hcons ta h3, hf1, hg1⟩

theorem asim_succV (M : Core.Module) (n : Nat) (ihE : ESimV M n) (ihA : ASimV M n) : ASimV M (n + 1) := by
  intro code ps Γ as fr g vs fr' g' h hok hf hg k c os k' q ρ hl hat
  cases as with
  | nil =>
    cases evalArgs_nil ▸ h
    simp only [lowerArgs, Prod.mk.injEq] at hl
    obtain ⟨rfl, rfl, rfl⟩ := hl
    exact ⟨ρ, Run.nil _, trivial, trivial, hf, hg⟩
  | cons e rest =>
    simp only [okArgsV, Bool.and_eq_true] at hok
    obtain ⟨a, fr1, g1, ws, h1, h2, rfl⟩ := evalArgs_cons_inv h
    rcases hel : lowerE e k with ⟨c1, v1, k1⟩
    rcases her : lowerArgs rest k1 with ⟨c2, os2, k2⟩
    have le1 := lowerE_mono e k c1 v1 k1 hel
    simp only [lowerArgs, hel, her, Prod.mk.injEq] at hl
    obtain ⟨rfl, rfl, rfl⟩ := hl
    obtain ⟨ρ1, r1, e1, t1, hf1, hg1⟩ := ihE h1 hok.1 hf hg ρ hel hat.left
    obtain ⟨ρ2, r2, e2, t2, hf2, hg2⟩ :=
      ihA h2 hok.2 hf1 hg1 ρ1 her hat.right
    exact ⟨ρ2, r1.append r2 le1, ⟨⟨r2.opd e1 (lowerE_below e k c1 v1 k1 hel), fits_noPtr t1⟩, e2⟩, ⟨t1, t2⟩, hf2, hg2⟩

end Vec
end Nsl
