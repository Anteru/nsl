import Nsl.Proofs.IRTypeStep2
import Nsl.Proofs.VMSteps
/-!
# IR typing: soundness of the checker for whole executions (induction on the fuel)
-/
namespace Nsl
namespace IRType
open VM

/-- the invariant at a position: arrived by a jump, or inside a block (then the position exists unless the function is
`void`) -/
def InvAt (cx : Ctx) (pc : Nat) (fr : Frame) (g : Globals) : Prop :=
  JumpOK cx pc fr g ∨
    (InvBody cx (stateAt cx pc) fr g ∧ (cx.code[pc]? ≠ none ∨ tyBeq cx.ret .void = true))

theorem okErr_timeout (strict : Bool) : okErr strict .timeout := fun _ h => by cases h

theorem inv_next {cx : Ctx} (hchk : checkCode cx {} cx.code = true) {pc : Nat} {ins : Instr}
    (hc : cx.code[pc]? = some ins) {fr : Frame} {g : Globals} (hi : InvBody cx (step cx (stateAt cx pc) ins) fr g) :
    InvAt cx (pc + 1) fr g := by
  refine .inr ⟨stateAt_succ hc ▸ hi, ?_⟩
  rcases (checkCode_at hchk hc).2 with h | h | h
  · rw [stateAt_succ hc, hi.live] at h; cases h
  · exact .inr h
  · exact .inl h

theorem stepAt {cx : Ctx} {callf : String → List Val → Globals → Res} (hchk : checkCode cx {} cx.code = true)
    (hcall : CallSpec cx callf) {pc : Nat} {fr : Frame} {g : Globals} (hinv : InvAt cx pc fr g) :
    OutPost cx (InvAt cx) (stepI callf cx.code pc fr g) := by
  rcases hinv with ⟨l, d, hc, hd, hv⟩ | ⟨hb, hbound⟩
  · obtain ⟨hs, hi⟩ := step_label_jump (callf := callf) hc hd hv (stateAt cx pc)
    rw [hs]
    exact inv_next hchk hc hi
  · cases hc : cx.code[pc]? with
    | none =>
      have hvoid : tyBeq cx.ret .void = true := hbound.resolve_left (absurd hc)
      simp only [stepI, hc]
      exact ⟨tyBeq_eq _ _ hvoid ▸ (valOK_void _).2 rfl, hb.vars.globals⟩
    | some ins =>
      have hrule : ruleOK cx (stateAt cx pc) ins = true := by
        simpa [instrOK, hb.live] using (checkCode_at hchk hc).1
      exact (step_sound hcall hc hb hrule).mono fun _ _ _ h =>
        h.elim (fun ⟨e, _, hi⟩ => e ▸ inv_next hchk hc hi) .inl

theorem inv_entry {cx : Ctx} {args : List Val} {g : Globals} (hcode : (!cx.code.isEmpty || tyBeq cx.ret .void) = true)
    (hargs : valsOK (cx.params.map (·.2)) args = true) (hg : GlobalsOK cx.P.globals g) :
    InvAt cx 0 { args := args } g := by
  refine Or.inr ⟨stateAt_zero cx ▸ ⟨rfl, MapRel.nil, ⟨LocalsOK_iff_mapRel.2 MapRel.nil, valsOK_args hargs, hg⟩⟩, ?_⟩
  simp only [Bool.or_eq_true, Bool.not_eq_true', List.isEmpty_eq_false_iff] at hcode
  rcases hcode with h | h
  · left
    cases hcd : cx.code with
    | nil => exact absurd hcd h
    | cons a rest => simp
  · exact Or.inr h

theorem checkFnWith_iff {strict : Bool} {P : Program} {f : Func} {D : Cert} :
    checkFnWith strict P f D = true ↔
      (!f.code.isEmpty || tyBeq f.ret .void) = true ∧ checkCode (mkCtx strict P f D) {} f.code = true := by
  rw [checkFnWith, Bool.and_eq_true]

def ProgOK (strict : Bool) (P : Program) : Prop := ∀ f ∈ P.funcs, ∃ D, checkFnWith strict P f D = true

theorem run_sound {strict : Bool} {P : Program} (hP : ProgOK strict P) : ∀ (fuel : Nat) (f : Func) (D : Cert),
    checkFnWith strict P f D = true → ∀ (pc : Nat) (fr : Frame) (g : Globals),
    InvAt (mkCtx strict P f D) pc fr g → ResOK strict P f.ret (run P fuel f pc fr g) := by
  intro fuel
  induction fuel with
  | zero =>
    intro f D _ pc fr g _
    rw [run_zero]
    exact okErr_timeout strict
  | succ fuel ih =>
    intro f D hf pc fr g hinv
    have hcall : CallSpec (mkCtx strict P f D) (callD P fuel) := by
      intro name args g0 callee hfind hargs hg0
      have hfind' : P.find name = some callee := hfind
      simp only [callD, hfind']
      obtain ⟨Dc, hDc⟩ := hP callee (List.mem_of_find?_eq_some hfind')
      exact ih callee Dc hDc 0 { args := args } g0 (inv_entry (checkFnWith_iff.1 hDc).1 hargs hg0)
    have hstep : OutPost (mkCtx strict P f D) (InvAt _) (stepI (callD P fuel) f.code pc fr g) :=
      stepAt (checkFnWith_iff.1 hf).2 hcall hinv
    rw [run_succ]
    generalize stepI (callD P fuel) f.code pc fr g = out at hstep
    cases out with
    | next pc' fr' g' => exact ih f D hf pc' fr' g' hstep
    | ret v g' as => exact hstep
    | fail e => exact hstep

theorem progOK_of_check {strict : Bool} {P : Program} (h : irTypeCheckG strict P = true) : ProgOK strict P := by
  intro f hf
  exact ⟨inferD f.code, List.all_eq_true.1 h f hf⟩

/-- Soundness of the checker: a checked program, started on typed arguments and globals, returns a value of the
function's return type and leaves typed globals, or fails with an admissible error. -/
theorem invoke_sound {strict : Bool} {P : Program} (hP : irTypeCheckG strict P = true) (fuel : Nat) (name : String)
    (args : List Val) (g : Globals) (f : Func) (hf : P.find name = some f)
    (hargs : valsOK (f.params.map (·.2)) args = true) (hg : GlobalsOK P.globals g) :
    ResOK strict P f.ret (invoke P fuel name args g) := by
  have hok := progOK_of_check hP
  obtain ⟨D, hD⟩ := hok f (List.mem_of_find?_eq_some hf)
  simp only [invoke, hf]
  exact run_sound hok fuel f D hD 0 { args := args } g
    (inv_entry (cx := mkCtx strict P f D) (checkFnWith_iff.1 hD).1 hargs hg)

end IRType
end Nsl
