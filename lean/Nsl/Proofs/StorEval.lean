import Nsl.Proofs.StorPlace
/-!
# Storage core: the steps for expressions (`esim_succS`) and argument lists (`asim_succS`)
-/
namespace Nsl
namespace Stor
open Core VM CoreSem Lower Sim

/-- The expression step.  Element and field reads evaluate their place one fuel level further down than the other
forms evaluate their operands, hence the claims at every `m ≤ n` as hypothesis. -/
theorem esim_succS (M : Core.Module) (n : Nat) (ih : ∀ m, m ≤ n → ESimS M m ∧ PSimS M m) (ihA : ASimS M n)
    (ihC : CSim (mdisc M) n) : ESimS M (n + 1) := by
  have ihE : ESimS M n := (ih n (Nat.le_refl n)).1
  have ihSt : StSimS M n := stsim M n (fun m hm => ih m (by omega))
  intro code Γ e fr g v fr' g' h hok hf hg k c o k' q ρ hl hat
  cases e with
  | litI i =>
    cases evalE_litI ▸ h
    simp only [lowerE, Prod.mk.injEq] at hl
    obtain ⟨rfl, rfl, rfl⟩ := hl
    exact ⟨ρ, Run.nil _, rfl, rfl, hf, hg, DomLe.refl _ _⟩
  | litF f =>
    cases evalE_litF ▸ h
    simp only [lowerE, Prod.mk.injEq] at hl
    obtain ⟨rfl, rfl, rfl⟩ := hl
    exact ⟨ρ, Run.nil _, rfl, rfl, hf, hg, DomLe.refl _ _⟩
  | var sc key ty =>
    obtain ⟨hty, hkey⟩ := okES_var_inv hok
    obtain ⟨root, hroot, hr, rfl, rfl⟩ := evalE_var_inv h
    simp only [lowerE, Prod.mk.injEq] at hl
    obtain ⟨rfl, rfl, rfl⟩ := hl
    have hstep := step_load (cf := callD (lowerModule M) 0) (g := g') (fr := vf ρ fr') hat.head hroot
      (by rw [readRoot_vf]; exact hr) (isAggregate_of_scalar' hty)
    exact ⟨Map.set ρ k v, Run.reg hstep (Nat.le_refl k), evalOpd_vf_set ..,
      readRoot_noPtrS hf hg hr, hf, hg, DomLe.refl _ _⟩
  | bin op ty l r =>
    simp only [okES, Bool.and_eq_true] at hok
    obtain ⟨⟨⟨⟨hty, hlt⟩, hrt⟩, hokl⟩, hokr⟩ := hok
    obtain ⟨a, fr1, g1, b, h1, h2, h3⟩ := evalE_bin_inv h
    rcases hel : lowerE l k with ⟨cl, vl, k1⟩
    rcases her : lowerE r k1 with ⟨cr, vr, k2⟩
    have le1 := lowerE_mono l k cl vl k1 hel
    have le2 := lowerE_mono r k1 cr vr k2 her
    rw [lowerE_bin_scalar hty hlt hrt hel her] at hl
    simp only [Prod.mk.injEq] at hl
    obtain ⟨rfl, rfl, rfl⟩ := hl
    obtain ⟨ρ1, r1, e1, p1, hf1, hg1, hd1⟩ :=
      ihE h1 hokl hf hg ρ hel hat.left.left
    obtain ⟨ρ2, r2, e2, p2, hf2, hg2, hd2⟩ :=
      ihE h2 hokr hf1 hg1 ρ1 her hat.left.right
    have hz : scalarBin op.toSOp (scIsInt ty) a b = .ok v := binSem_scalar hlt hrt ▸ h3
    have hstep := step_bin (cf := callD (lowerModule M) 0) (g := g') hat.right.head
      (r2.opd e1 ((lowerE_shapeG l k cl vl k1 hel).2.2)) p1 e2 p2 hz
    exact ⟨Map.set ρ2 k2 v, ((r1.append r2 le1).append (Run.reg hstep (Nat.le_refl k2)) (Nat.le_trans le1 le2)),
      evalOpd_vf_set .., scalarBin_noPtr hz, hf2, hg2, hd2.trans hd1⟩
  | cast ty x =>
    simp only [okES, Bool.and_eq_true] at hok
    obtain ⟨a, h1, h3⟩ := evalE_cast_inv h
    rcases hel : lowerE x k with ⟨cl, vl, k1⟩
    have le1 := lowerE_mono x k cl vl k1 hel
    simp only [lowerE, hel, Prod.mk.injEq] at hl
    obtain ⟨rfl, rfl, rfl⟩ := hl
    obtain ⟨ρ1, r1, e1, p1, hf1, hg1, hd1⟩ :=
      ihE h1 hok.2 hf hg ρ hel hat.left
    have hstep := step_cast (cf := callD (lowerModule M) 0) (g := g') hat.right.head e1 p1 h3
    have hnp : Val.isPtr v = false := by
      obtain ⟨s, rfl⟩ := scalar_inv hok.1
      exact castScalar_noPtr h3
    exact ⟨Map.set ρ1 k1 v, r1.append (Run.reg hstep (Nat.le_refl k1)) le1, evalOpd_vf_set ..,
      hnp, hf1, hg1, hd1⟩
  | assign lhs rhs =>
    simp only [okES, Bool.and_eq_true] at hok
    obtain ⟨⟨hlhs, hokl⟩, hokr⟩ := hok
    obtain ⟨fr1, g1, w, h1, h2⟩ := evalE_assign_inv h
    rcases hel : lowerE rhs k with ⟨cl, vl, k1⟩
    rcases hes : lowerStore lhs vl k1 with ⟨cs, k2⟩
    have le1 := lowerE_mono rhs k cl vl k1 hel
    have ob1 := (lowerE_shapeG rhs k cl vl k1 hel).2.2
    simp only [lowerE, hel, hes, Prod.mk.injEq] at hl
    obtain ⟨rfl, rfl, rfl⟩ := hl
    obtain ⟨ρ1, r1, e1, p1, hf1, hg1, hd1⟩ :=
      ihE h1 hokr hf hg ρ hel hat.left
    obtain ⟨ρ2, r2, _, hf2, hg2, hd2⟩ :=
      ihSt h2 hlhs hokl hf1 hg1 ρ1 hes hat.right e1 ob1
    exact ⟨ρ2, r1.append r2 le1, r2.opd e1 ob1, p1, hf2, hg2, hd2.trans hd1⟩
  | affix post inc x =>
    simp only [okES, Bool.and_eq_true] at hok
    obtain ⟨hlhs, hokx⟩ := hok
    obtain ⟨old, fr1, g1, new, w, h1, h3, h2, rfl⟩ := evalE_affix_inv h
    rcases hel : lowerE x k with ⟨cl, vl, k1⟩
    rcases hes : lowerStore x (.ref k1) (k1 + 1) with ⟨cs, k2⟩
    have le1 := lowerE_mono x k cl vl k1 hel
    have ob1 := (lowerE_shapeG x k cl vl k1 hel).2.2
    simp only [lowerE, hel, hes, Prod.mk.injEq] at hl
    obtain ⟨rfl, rfl, rfl⟩ := hl
    obtain ⟨ρ1, r1, e1, p1, hf1, hg1, hd1⟩ :=
      ihE h1 hokx hf hg ρ hel hat.left.left
    have hnew : Val.isPtr new = false := scalarBin_noPtr h3
    have st1 := step_bin (cf := callD (lowerModule M) 0) (g := g1) (fr := vf ρ1 fr1) hat.left.right.head
      (y := .int 1) e1 p1 rfl rfl h3
    obtain ⟨ρ2, r2, _, hf2, hg2, hd2⟩ :=
      ihSt h2 hlhs hokx hf1 hg1 (Map.set ρ1 k1 new) hes hat.right (evalOpd_vf_set ..) (Nat.lt_succ_self k1)
    refine ⟨ρ2, (r1.append (Run.reg st1 (Nat.le_refl k1)) le1).append r2 (Nat.le_succ_of_le le1), ?_, ?_, hf2, hg2,
      hd2.trans hd1⟩
    · -- the old value sits in the operand of `x`, the new one in `k1`; the store leaves both alone
      cases post
      · exact r2.opd (evalOpd_vf_set ..) (Nat.lt_succ_self k1)
      · exact r2.opd (evalOpd_frame e1 ob1 (fun r hr => Map.get_set_ne _ _ _ _ (Nat.ne_of_gt hr)))
          (ob1.mono (Nat.le_succ k1))
    · cases post
      · exact hnew
      · exact p1
  | call fn ty args =>
    simp only [okES] at hok
    obtain ⟨vs, g1, as, h1, h2⟩ := evalE_call_inv h
    rcases hel : lowerArgs args k with ⟨cl, os, k1⟩
    have le1 := lowerArgs_mono args k cl os k1 hel
    simp only [lowerE, hel, Prod.mk.injEq] at hl
    obtain ⟨rfl, rfl, rfl⟩ := hl
    obtain ⟨ρ1, r1, e1, hf1, hg1, hd1⟩ :=
      ihA h1 hok hf hg ρ hel hat.left
    obtain ⟨d, hcall, hnp, hg2⟩ := ihC h2 (OpdsEval.listOK e1) hg1
    have hstep := step_call (cf := callD (lowerModule M) d) hat.right.head (evalVals_of_noPtr e1) hcall
    exact ⟨Map.set ρ1 k1 v, r1.append (Run.reg hstep (Nat.le_refl k1)) le1, evalOpd_vf_set ..,
      hnp, hf1, hg2, hd1⟩
  | index kd ty base idx =>
    obtain ⟨rfl, hty, hb, hi⟩ := okES_index_inv hok
    obtain ⟨r, p', root, hpl, hr, hpv⟩ := evalE_place_inv (.inl ⟨_, _, _, rfl⟩) h
    -- the place was evaluated at fuel `n`, its base and index at fuel `n - 1`
    cases n with
    | zero => simp [evalPlace] at hpl
    | succ m =>
    obtain ⟨ihEm, ihPm⟩ := ih m (by omega)
    rcases hlb : lowerE base k with ⟨cb, vb, k1⟩
    rcases hli : lowerE idx k1 with ⟨ci, vi, k2⟩
    simp only [lowerE, hlb, hli, Prod.mk.injEq] at hl
    obtain ⟨rfl, rfl, rfl⟩ := hl
    obtain ⟨A, rfl, rfl⟩ := index_prefix ihEm ihPm hpl hb hi hf hg ρ hlb hli hat.left
    -- the value read through the whole path is the element the VM selects in the container
    obtain rfl : root = A.root := Except.ok.inj (hr.symm.trans A.read)
    obtain rfl : v = A.x := by
      rw [getPath_snoc, A.cont] at hpv
      exact Except.ok.inj (hpv.symm.trans A.elem)
    have hstep := step_loadArr (cf := callD (lowerModule M) 0) (g := g') (ty := ty) (dst := k2) hat.right.head A.base
      A.idx A.idx_noPtr (by rw [readRoot_vf]; exact A.read) A.cont A.key A.elem
    simp only [isAggregate_of_scalar' hty, Bool.false_and, Bool.false_eq_true, if_false] at hstep
    exact ⟨Map.set A.ρ2 k2 A.x, A.run.append (Run.reg hstep (Nat.le_refl k2)) A.le,
      evalOpd_vf_set .., A.tree, A.frOK, A.glOK, A.dom⟩
  | member ty base fld =>
    obtain ⟨hty, hb⟩ := okES_member_inv hok
    obtain ⟨r, p', root, hpl, hr, hpv⟩ := evalE_place_inv (.inr ⟨_, _, _, rfl⟩) h
    cases n with
    | zero => simp [evalPlace] at hpl
    | succ m =>
    obtain ⟨ihEm, ihPm⟩ := ih m (by omega)
    obtain ⟨p0, hpb, rfl⟩ := evalPlace_member_inv hpl
    obtain ⟨xn, rfl, hlen⟩ := evalPlace_root (Γ := Γ) m base hpb hb
    rcases hlb : lowerE base k with ⟨cb, vb, k1⟩
    have le1 := lowerE_mono base k cb vb k1 hlb
    simp only [lowerE, hlb, Prod.mk.injEq] at hl
    obtain ⟨rfl, rfl, rfl⟩ := hl
    obtain ⟨ρ1, hc1, hf1, hg1, hd1⟩ :=
      ihPm hpb hb hf hg ρ hlb hat.left
    obtain ⟨r1, e1⟩ := hc1 ⟨root, hr⟩
    -- the container and the field
    rw [getPath_snoc] at hpv
    obtain ⟨c0, hpc, hxv⟩ := bind_ok hpv
    have htv : Tree 0 v := (Tree.path p0 (by rw [hlen]; exact readRoot_tree hf1 hr) hpc).key hxv
    have hstep := step_loadMem (cf := callD (lowerModule M) 0) (g := g') (ty := ty) (dst := k1) hat.right.head e1
      (by rw [readRoot_vf]; exact hr) hpc hxv
    simp only [isAggregate_of_scalar' hty, Bool.false_and, Bool.false_eq_true, if_false] at hstep
    exact ⟨Map.set ρ1 k1 v, r1.append (Run.reg hstep (Nat.le_refl k1)) le1, evalOpd_vf_set ..,
      htv, hf1, hg1, hd1⟩
  | swizzle ty b idx => simp [okES] at hok
  | construct ty as => simp [okES] at hok

theorem asim_succS (M : Core.Module) (n : Nat) (ihE : ESimS M n) (ihA : ASimS M n) : ASimS M (n + 1) := by
  intro code Γ as fr g vs fr' g' h hok hf hg k c os k' q ρ hl hat
  cases as with
  | nil =>
    cases evalArgs_nil ▸ h
    simp only [lowerArgs, Prod.mk.injEq] at hl
    obtain ⟨rfl, rfl, rfl⟩ := hl
    exact ⟨ρ, Run.nil _, trivial, hf, hg, DomLe.refl _ _⟩
  | cons e rest =>
    simp only [okArgsS, Bool.and_eq_true] at hok
    obtain ⟨a, fr1, g1, ws, h1, h2, rfl⟩ := evalArgs_cons_inv h
    rcases hel : lowerE e k with ⟨c1, v1, k1⟩
    rcases her : lowerArgs rest k1 with ⟨c2, os2, k2⟩
    have le1 := lowerE_mono e k c1 v1 k1 hel
    simp only [lowerArgs, hel, her, Prod.mk.injEq] at hl
    obtain ⟨rfl, rfl, rfl⟩ := hl
    obtain ⟨ρ1, r1, e1, p1, hf1, hg1, hd1⟩ :=
      ihE h1 hok.1 hf hg ρ hel hat.left
    obtain ⟨ρ2, r2, e2, hf2, hg2, hd2⟩ :=
      ihA h2 hok.2 hf1 hg1 ρ1 her hat.right
    exact ⟨ρ2, r1.append r2 le1, ⟨⟨r2.opd e1 ((lowerE_shapeG e k c1 v1 k1 hel).2.2), p1⟩, e2⟩, hf2, hg2, hd2.trans hd1⟩

end Stor
end Nsl
