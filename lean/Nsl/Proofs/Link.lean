import Nsl.Model.Link
/-!
`link_spec`: the function/global tables are exactly the bindings of the added modules and of the modules *reachable*
through imports (any chain, diamonds); keys are unique; every reachable module name is loaded exactly once.
-/
namespace Nsl
namespace Link

def keys {α : Type} (l : List (String × α)) : List String := l.map (·.1)

theorem keys_cons {α : Type} (k : String) (v : α) (l : List (String × α)) :
    keys ((k, v) :: l) = k :: keys l := rfl

theorem keys_append {α : Type} (a b : List (String × α)) : keys (a ++ b) = keys a ++ keys b :=
  List.map_append

theorem hasKey_iff {α : Type} (l : List (String × α)) (k : String) : hasKey l k = true ↔ k ∈ keys l := by
  simp [hasKey, keys, List.any_eq_true]

theorem addAll_ok {α : Type} (mk : String → LErr) : ∀ (new tbl r : List (String × α)),
    addAll mk tbl new = .ok r →
    r = tbl ++ new ∧ (∀ k ∈ keys new, k ∉ keys tbl) ∧ (keys new).Nodup := by
  intro new
  induction new with
  | nil => intro tbl r h; cases h; exact ⟨(List.append_nil _).symm, nofun, .nil⟩
  | cons p rest ih =>
    intro tbl r h
    obtain ⟨k, v⟩ := p
    rw [addAll] at h
    split at h
    · cases h
    · next hk =>
      rw [hasKey_iff] at hk
      -- the rest is added to `tbl ++ [(k, v)]`: its keys avoid those of `tbl` and `k`
      obtain ⟨rfl, hdis, hnd⟩ := ih _ _ h
      simp only [keys_append, keys_cons, List.mem_append, List.mem_cons, not_or] at hdis
      exact ⟨List.append_cons .. |>.symm,
        List.forall_mem_cons.2 ⟨hk, fun k' h' => (hdis k' h').1⟩,
        List.nodup_cons.2 ⟨fun hm => (hdis k hm).2.1 rfl, hnd⟩⟩

theorem addAll_dup {α : Type} (mk : String → LErr) (new tbl : List (String × α)) (k : String)
    (hk : k ∈ keys new) (ht : k ∈ keys tbl) : ∃ e, addAll mk tbl new = .error e := by
  cases h : addAll mk tbl new with
  | error e => exact ⟨e, rfl⟩
  | ok r => exact absurd ht ((addAll_ok mk new tbl r h).2.1 k hk)

theorem nodup_keys_append {α : Type} {a b : List (String × α)} (ha : (keys a).Nodup) (hb : (keys b).Nodup)
    (hd : ∀ k ∈ keys b, k ∉ keys a) : (keys (a ++ b)).Nodup := by
  rw [keys_append]
  exact List.nodup_append.2 ⟨ha, hb, fun x hx y hy hxy => hd y hy (hxy ▸ hx)⟩

theorem addModule_ok {s s' : LState} {m : LModule} (h : addModule s m = .ok s') :
    s'.funcs = s.funcs ++ m.funcs ∧ s'.globals = s.globals ++ m.globals ∧ s'.loaded = s.loaded ∧
    s'.pending = s.pending ++ m.imports ∧ s'.mods = s.mods ++ [m] ∧
    (∀ k ∈ keys m.funcs, k ∉ keys s.funcs) ∧ (keys m.funcs).Nodup ∧
    (∀ k ∈ keys m.globals, k ∉ keys s.globals) ∧ (keys m.globals).Nodup := by
  simp only [addModule, bind, Except.bind] at h
  cases hf : addAll LErr.dupFunction s.funcs m.funcs with
  | error e => rw [hf] at h; cases h
  | ok fs =>
    cases hg : addAll LErr.dupGlobal s.globals m.globals with
    | error e => rw [hf, hg] at h; cases h
    | ok gs =>
      rw [hf, hg] at h
      cases h
      obtain ⟨r1, d1, n1⟩ := addAll_ok _ _ _ _ hf
      obtain ⟨r2, d2, n2⟩ := addAll_ok _ _ _ _ hg
      exact ⟨r1, r2, rfl, rfl, rfl, d1, n1, d2, n2⟩

def Tables (s : LState) : Prop :=
  s.funcs = s.mods.flatMap (·.funcs) ∧ s.globals = s.mods.flatMap (·.globals) ∧
  (keys s.funcs).Nodup ∧ (keys s.globals).Nodup

theorem Tables.addModule {s s' : LState} {m : LModule} (ht : Tables s) (h : addModule s m = .ok s') :
    Tables s' := by
  obtain ⟨e1, e2, -, -, e5, d1, n1, d2, n2⟩ := addModule_ok h
  obtain ⟨hf, hg, fk, gk⟩ := ht
  refine ⟨?_, ?_, e1 ▸ nodup_keys_append fk n1 d1, e2 ▸ nodup_keys_append gk n2 d2⟩
  · rw [e1, e5, hf, List.flatMap_append, List.flatMap_singleton]
  · rw [e2, e5, hg, List.flatMap_append, List.flatMap_singleton]

def roots (added : List LModule) : List String := added.flatMap (·.imports)

inductive Reach (loader : Loader) (rts : List String) : String → Prop
  | root {n : String} : n ∈ rts → Reach loader rts n
  | step {n i : String} {m : LModule} : Reach loader rts n → loader n = some m → i ∈ m.imports → Reach loader rts i

theorem Reach.mono {loader : Loader} {r₁ r₂ : List String} (h : ∀ n ∈ r₁, n ∈ r₂) {n : String}
    (hr : Reach loader r₁ n) : Reach loader r₂ n := by
  induction hr with
  | root hn => exact .root (h _ hn)
  | step _ hl hi ih => exact .step ih hl hi

/-- Invariant of the linker state while imports are worked off. -/
structure Inv (loader : Loader) (added : List LModule) (s : LState) : Prop where
  funcsEq : s.funcs = s.mods.flatMap (·.funcs)
  globalsEq : s.globals = s.mods.flatMap (·.globals)
  fkeys : (keys s.funcs).Nodup
  gkeys : (keys s.globals).Nodup
  loadedNodup : s.loaded.Nodup
  modsEq : ∀ m, m ∈ s.mods ↔ m ∈ added ∨ ∃ n ∈ s.loaded, loader n = some m
  loadedReach : ∀ n ∈ s.loaded, Reach loader (roots added) n
  pendingReach : ∀ n ∈ s.pending, Reach loader (roots added) n
  closed : ∀ m ∈ s.mods, ∀ i ∈ m.imports, i ∈ s.loaded ∨ i ∈ s.pending
  loadedSome : ∀ n ∈ s.loaded, ∃ m, loader n = some m

theorem addModules_spec : ∀ (ms : List LModule) (s s' : LState), addModules s ms = .ok s' → Tables s →
    Tables s' ∧ s'.mods = s.mods ++ ms ∧ s'.loaded = s.loaded ∧ s'.pending = s.pending ++ roots ms
  | [], s, s', h, ht => by cases h; exact ⟨ht, (List.append_nil _).symm, rfl, (List.append_nil _).symm⟩
  | m :: ms, s, s', h, ht => by
    simp only [addModules, bind, Except.bind] at h
    cases h1 : addModule s m with
    | error e => rw [h1] at h; cases h
    | ok s1 =>
      rw [h1] at h
      obtain ⟨-, -, e3, e4, e5, -⟩ := addModule_ok h1
      obtain ⟨ht', hm, hl, hp⟩ := addModules_spec ms s1 s' h (ht.addModule h1)
      refine ⟨ht', ?_, hl.trans e3, ?_⟩
      · rw [hm, e5, List.append_assoc, List.singleton_append]
      · rw [hp, e4, List.append_assoc]; rfl

theorem Inv.ofAdded {loader : Loader} {added : List LModule} {s : LState}
    (h : addModules {} added = .ok s) : Inv loader added s := by
  obtain ⟨⟨hf, hg, fk, gk⟩, hm, hl, hp⟩ :=
    addModules_spec added {} s h ⟨rfl, rfl, List.nodup_nil, List.nodup_nil⟩
  have hm : s.mods = added := hm
  have hl : s.loaded = [] := hl
  have hp : s.pending = roots added := hp
  refine ⟨hf, hg, fk, gk, hl ▸ List.nodup_nil, fun m => ?_, ?_, ?_, ?_, ?_⟩
  · rw [hm, hl]; exact ⟨Or.inl, fun h => h.elim id fun ⟨_, hn, _⟩ => nomatch hn⟩
  · rw [hl]; exact nofun
  · rw [hp]; exact fun n hn => Reach.root hn
  · rw [hm, hp]; exact fun m hm i hi => Or.inr (List.mem_flatMap.2 ⟨m, hm, hi⟩)
  · rw [hl]; exact nofun

theorem Inv.tables {loader : Loader} {added : List LModule} {s : LState} (hi : Inv loader added s) :
    Tables s :=
  ⟨hi.funcsEq, hi.globalsEq, hi.fkeys, hi.gkeys⟩

theorem linkLoop_inv (loader : Loader) (added : List LModule) : ∀ (fuel : Nat) (s s' : LState),
    Inv loader added s → linkLoop loader fuel s = .ok s' → Inv loader added s' ∧ s'.pending = [] := by
  intro fuel
  induction fuel with
  | zero => intro s s' _ h; cases h
  | succ fuel ih =>
    intro s s' hi h
    rw [linkLoop] at h
    split at h
    · next hp => cases h; exact ⟨hi, hp⟩
    next name rest hp =>
    have hrest : ∀ n ∈ rest, n ∈ s.pending := fun n hn => hp ▸ List.mem_cons_of_mem _ hn
    split at h
    · -- already loaded: the name leaves `pending`, and `closed` finds it in `loaded`
      next hc =>
      have hmem : name ∈ s.loaded := List.contains_iff_mem.1 hc
      refine ih _ _ ?_ h
      exact { hi with
        pendingReach := fun n hn => hi.pendingReach n (hrest n hn)
        closed := fun m hm i him => (hi.closed m hm i him).elim Or.inl fun h1 => by
          rcases List.mem_cons.1 (hp ▸ h1) with rfl | h1
          · exact Or.inl hmem
          · exact Or.inr h1 }
    · next hc =>
      have hnm : name ∉ s.loaded := fun hm => hc (List.contains_iff_mem.2 hm)
      split at h
      · cases h
      next m hl =>
      split at h
      · cases h
      next s1 ha =>
      obtain ⟨-, -, e3, e4, e5, -⟩ := addModule_ok ha
      simp only at e3 e4 e5
      obtain ⟨t1, t2, t3, t4⟩ :=
        Tables.addModule (s := { s with pending := rest, loaded := name :: s.loaded }) hi.tables ha
      have hreach : Reach loader (roots added) name := hi.pendingReach name (hp ▸ List.mem_cons_self ..)
      refine ih _ _ ⟨t1, t2, t3, t4, ?_, ?_, ?_, ?_, ?_, ?_⟩ h
      · rw [e3]; exact List.nodup_cons.2 ⟨hnm, hi.loadedNodup⟩
      · intro x
        rw [e5, e3, List.mem_append, List.mem_singleton, hi.modsEq x]
        constructor
        · rintro ((h1 | ⟨n, hn, hln⟩) | rfl)
          · exact Or.inl h1
          · exact Or.inr ⟨n, List.mem_cons_of_mem _ hn, hln⟩
          · exact Or.inr ⟨name, List.mem_cons_self .., hl⟩
        · rintro (hx | ⟨n, hn, hln⟩)
          · exact Or.inl (Or.inl hx)
          · rcases List.mem_cons.1 hn with rfl | hn
            · exact Or.inr (Option.some.inj (hl.symm.trans hln)).symm
            · exact Or.inl (Or.inr ⟨n, hn, hln⟩)
      · rw [e3]
        exact List.forall_mem_cons.2 ⟨hreach, hi.loadedReach⟩
      · intro n hn
        rcases List.mem_append.1 (e4 ▸ hn) with hn | hn
        · exact hi.pendingReach n (hrest n hn)
        · exact Reach.step hreach hl hn
      · intro x hx i hxi
        rw [e3, e4]
        rcases List.mem_append.1 (e5 ▸ hx) with hx | hx
        · rcases hi.closed x hx i hxi with h1 | h1
          · exact Or.inl (List.mem_cons_of_mem _ h1)
          · rcases List.mem_cons.1 (hp ▸ h1) with rfl | h1
            · exact Or.inl (List.mem_cons_self ..)
            · exact Or.inr (List.mem_append_left _ h1)
        · cases List.mem_singleton.1 hx
          exact Or.inr (List.mem_append_right _ hxi)
      · rw [e3]
        exact List.forall_mem_cons.2 ⟨⟨m, hl⟩, hi.loadedSome⟩

theorem link_spec {loader : Loader} {fuel : Nat} {added : List LModule} {s : LState}
    (h : link loader fuel added = .ok s) :
    (∀ n, n ∈ s.loaded ↔ Reach loader (roots added) n) ∧ s.loaded.Nodup ∧
    (∀ m, m ∈ s.mods ↔ m ∈ added ∨ ∃ n, Reach loader (roots added) n ∧ loader n = some m) ∧
    s.funcs = s.mods.flatMap (·.funcs) ∧ s.globals = s.mods.flatMap (·.globals) ∧
    (keys s.funcs).Nodup ∧ (keys s.globals).Nodup := by
  simp only [link, bind, Except.bind] at h
  cases h1 : addModules {} added with
  | error e => rw [h1] at h; cases h
  | ok s1 =>
    rw [h1] at h
    obtain ⟨hi, hpend⟩ := linkLoop_inv loader added fuel s1 s (Inv.ofAdded h1) h
    -- nothing is pending any more, so `closed` says: imports of merged modules are loaded
    have hclosed : ∀ m ∈ s.mods, ∀ i ∈ m.imports, i ∈ s.loaded := fun m hm i hmi =>
      (hi.closed m hm i hmi).resolve_right fun h2 => by rw [hpend] at h2; cases h2
    have hall : ∀ n, Reach loader (roots added) n → n ∈ s.loaded := by
      intro n hr
      induction hr with
      | root hn =>
        obtain ⟨m, hm, hnm⟩ := List.mem_flatMap.1 hn
        exact hclosed m ((hi.modsEq m).2 (Or.inl hm)) _ hnm
      | step _ hl him ih => exact hclosed _ ((hi.modsEq _).2 (Or.inr ⟨_, ih, hl⟩)) _ him
    refine ⟨fun n => ⟨hi.loadedReach n, hall n⟩, hi.loadedNodup, fun m => ?_, hi.funcsEq, hi.globalsEq,
      hi.fkeys, hi.gkeys⟩
    rw [hi.modsEq m]
    exact or_congr_right ⟨fun ⟨n, hn, hl⟩ => ⟨n, hi.loadedReach n hn, hl⟩,
      fun ⟨n, hn, hl⟩ => ⟨n, hall n hn, hl⟩⟩

end Link
end Nsl
