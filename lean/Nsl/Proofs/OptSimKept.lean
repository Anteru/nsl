import Nsl.Proofs.Opt
/-!
# One step of a kept instruction, original against rewired

`stepI_sim_kept`: if the frames agree on locals and arguments and every operand of `ins` has the value its rewired
image has in the optimised frame, then `ins` and `substInstr σ ins` step to related outcomes (`OutRel`).  The proof
follows `stepI` through its `liftE` chain: intermediate values are equal, so only the leaves are compared.
-/
namespace Nsl
namespace Opt
open VM WF

def NextRel (ins : Instr) (fr fr' fr1 fr1' : Frame) : Prop :=
  fr1'.locals = fr1.locals ∧ fr1'.args = fr1.args ∧
  match WF.defOf ins with
  | some d => ∃ x, fr1.regs = Map.set fr.regs d x ∧ fr1'.regs = Map.set fr'.regs d x
  | none => fr1.regs = fr.regs ∧ fr1'.regs = fr'.regs

/-- How the outcome `o'` of the optimised step relates to the outcome of the original step.  `T` is the only
excuse for an original `timeout` that the optimised step does not reproduce (a call that ran out of budget).
A successor is the next position or a label position: the invariant is weaker at a block start, and this is how its
proof learns that a jump lands on one. -/
def OutRel (T : Prop) (code : List Instr) (κ : Nat → Nat) (pc : Nat) (ins : Instr) (fr fr' : Frame) :
    StepOut → StepOut → Prop
  | .next p1 fr1 g1, o' => ∃ fr1', o' = .next (κ p1) fr1' g1 ∧ NextRel ins fr fr' fr1 fr1' ∧
      (p1 = pc + 1 ∨ ∃ l, labelPos code l = some p1)
  | .ret v g1 as, o' => o' = .ret v g1 as
  | .fail e, o' => (e = .timeout ∧ T) ∨ o' = .fail e

/-- the original step is a call whose callee ran out of budget -/
def CallTimeout (cf : String → List Val → Globals → Res) (σ : Subst) (ins : Instr) (fr fr' : Frame) (g : Globals) : Prop :=
  ∃ d ty fn args vs, ins = .call d ty fn args ∧ evalVals fr g args = .ok vs ∧
    evalVals fr' g (args.map (substOpd σ)) = .ok vs ∧ cf fn vs g = .fail .timeout

theorem readRoot_congr {fr fr' : Frame} (hL : fr'.locals = fr.locals) (hA : fr'.args = fr.args) (g : Globals) (r : Root) :
    readRoot fr' g r = readRoot fr g r := by
  cases r <;> simp only [readRoot, hL, hA]

theorem evalVal_congr {fr fr' : Frame} (hL : fr'.locals = fr.locals) (hA : fr'.args = fr.args) (g : Globals)
    {o o' : Opd} (h : evalOpd fr' o' = evalOpd fr o) : evalVal fr' g o' = evalVal fr g o := by
  unfold evalVal
  rw [h]
  cases evalOpd fr o with
  | error e => rfl
  | ok v => cases v <;> simp only [bind, Except.bind, readRoot_congr hL hA]

theorem evalVals_congr {fr fr' : Frame} (hL : fr'.locals = fr.locals) (hA : fr'.args = fr.args) (g : Globals)
    (σ : Subst) : ∀ (os : List Opd), (∀ o ∈ os, evalOpd fr' (substOpd σ o) = evalOpd fr o) →
      evalVals fr' g (os.map (substOpd σ)) = evalVals fr g os
  | [], _ => rfl
  | o :: os, h => by
    simp only [List.map_cons, evalVals, evalVal_congr hL hA g (h o (.head _)),
      evalVals_congr hL hA g σ os (fun o ho => h o (.tail _ ho))]

theorem writeRoot_congr {fr fr' : Frame} (hL : fr'.locals = fr.locals) (hA : fr'.args = fr.args) (g : Globals) (r : Root) (v : Val) :
    writeRoot fr' g r v = match writeRoot fr g r v with
      | .ok (f1, g1) => .ok ({ regs := fr'.regs, locals := f1.locals, args := f1.args }, g1)
      | .error e => .error e := by
  obtain ⟨R, L, A⟩ := fr
  obtain ⟨R', L', A'⟩ := fr'
  simp only at hL hA
  subst hL hA
  cases r <;> simp only [writeRoot]
  split <;> rfl

section
variable {T : Prop} {code : List Instr} {κ : Nat → Nat} {pc : Nat} {ins : Instr} {fr fr' : Frame}

theorem outRel_fail (e : Err) : OutRel T code κ pc ins fr fr' (.fail e) (.fail e) := Or.inr rfl

theorem outRel_liftE {α} {x x' : Except Err α} (hx : x' = x) {k k' : α → StepOut}
    (h : ∀ a, OutRel T code κ pc ins fr fr' (k a) (k' a)) :
    OutRel T code κ pc ins fr fr' (liftE x k) (liftE x' k') := by
  subst hx
  cases x' with
  | error e => exact Or.inr rfl
  | ok a => exact h a

theorem nextRel_set {fr1 fr1' : Frame} {d : Nat} (hd : defOf ins = some d) (x : Val)
    (hL : fr1'.locals = fr1.locals) (hA : fr1'.args = fr1.args)
    (h1 : fr1.regs = Map.set fr.regs d x) (h2 : fr1'.regs = Map.set fr'.regs d x) :
    NextRel ins fr fr' fr1 fr1' := by
  refine ⟨hL, hA, ?_⟩
  rw [hd]
  exact ⟨x, h1, h2⟩

theorem nextRel_same {fr1 fr1' : Frame} (hd : defOf ins = none)
    (hL : fr1'.locals = fr1.locals) (hA : fr1'.args = fr1.args)
    (h1 : fr1.regs = fr.regs) (h2 : fr1'.regs = fr'.regs) :
    NextRel ins fr fr' fr1 fr1' := by
  refine ⟨hL, hA, ?_⟩
  rw [hd]
  exact ⟨h1, h2⟩

theorem outRel_next_set {pc' d : Nat} (hd : defOf ins = some d) (hκ : κ (pc + 1) = pc' + 1)
    (hL : fr'.locals = fr.locals) (hA : fr'.args = fr.args) (z : Val) (g : Globals) :
    OutRel T code κ pc ins fr fr' (.next (pc + 1) (setReg fr d z) g) (.next (pc' + 1) (setReg fr' d z) g) :=
  ⟨setReg fr' d z, by rw [hκ], nextRel_set hd z hL hA rfl rfl, Or.inl rfl⟩

theorem outRel_next_same {pc' : Nat} (hd : defOf ins = none) (hκ : κ (pc + 1) = pc' + 1)
    (hL : fr'.locals = fr.locals) (hA : fr'.args = fr.args) (g : Globals) :
    OutRel T code κ pc ins fr fr' (.next (pc + 1) fr g) (.next (pc' + 1) fr' g) :=
  ⟨fr', by rw [hκ], nextRel_same hd hL hA rfl rfl, Or.inl rfl⟩

theorem outRel_jump {code' : List Instr} (hlab : ∀ l, labelPos code' l = (labelPos code l).map κ)
    (hd : defOf ins = none) (hL : fr'.locals = fr.locals) (hA : fr'.args = fr.args) (l : Nat) (g : Globals) :
    OutRel T code κ pc ins fr fr' (jump code l fr g) (jump code' l fr' g) := by
  unfold jump
  rw [hlab]
  cases hp : labelPos code l with
  | none => exact Or.inr rfl
  | some p => exact ⟨fr', rfl, nextRel_same hd hL hA rfl rfl, Or.inr ⟨l, hp⟩⟩

theorem outRel_write {pc' : Nat} (hd : defOf ins = none) (hκ : κ (pc + 1) = pc' + 1)
    (hL : fr'.locals = fr.locals) (hA : fr'.args = fr.args) (g : Globals) (r : Root) (v : Val) :
    OutRel T code κ pc ins fr fr'
      (liftE (writeRoot fr g r v) fun (x : Frame × Globals) => .next (pc + 1) x.1 x.2)
      (liftE (writeRoot fr' g r v) fun (x : Frame × Globals) => .next (pc' + 1) x.1 x.2) := by
  rw [writeRoot_congr hL hA]
  cases hw : writeRoot fr g r v with
  | error e => exact Or.inr rfl
  | ok res =>
    obtain ⟨f1, g1⟩ := res
    exact ⟨{ regs := fr'.regs, locals := f1.locals, args := f1.args }, by simp only [liftE]; rw [hκ],
      nextRel_same hd rfl rfl (writeRoot_regs hw) rfl, Or.inl rfl⟩

end

theorem stepI_sim_kept {cf cf' : String → List Val → Globals → Res} (hcf : CallRel cf cf')
    {code code' : List Instr} {κ : Nat → Nat} (hlab : ∀ l, labelPos code' l = (labelPos code l).map κ)
    {σ : Subst} {pc pc' : Nat} {ins : Instr} (hc : code[pc]? = some ins)
    (hc' : code'[pc']? = some (substInstr σ ins)) (hκ : κ (pc + 1) = pc' + 1)
    {fr fr' : Frame} (hL : fr'.locals = fr.locals) (hA : fr'.args = fr.args)
    (hO : ∀ o ∈ opsOf ins, evalOpd fr' (substOpd σ o) = evalOpd fr o)
    (g : Globals) :
    OutRel (CallTimeout cf σ ins fr fr' g) code κ pc ins fr fr'
      (stepI cf code pc fr g) (stepI cf' code' pc' fr' g) := by
  have hV : ∀ o ∈ opsOf ins, evalVal fr' g (substOpd σ o) = evalVal fr g o :=
    fun o ho => evalVal_congr hL hA g (hO o ho)
  have hR : ∀ r, readRoot fr' g r = readRoot fr g r := readRoot_congr hL hA g
  cases ins with
  | label l =>
    rw [stepI_label hc, stepI_label hc']
    exact outRel_next_same rfl hκ hL hA g
  | load d ty sc var =>
    rw [stepI_load hc, stepI_load hc']
    refine outRel_liftE rfl fun root => outRel_liftE (hR root) fun v => ?_
    -- the same test on both sides: `split` decides it for both at once (here and below)
    split <;> exact outRel_next_set rfl hκ hL hA _ g
  | store sc var src =>
    rw [stepI_store hc, stepI_store hc']
    refine outRel_liftE rfl fun root => outRel_liftE (hO src (.head _)) fun v => ?_
    split
    · exact outRel_fail _
    · exact outRel_write rfl hκ hL hA g root _
  | newVar d ty name =>
    rw [stepI_newVar hc, stepI_newVar hc', hL]
    split
    · exact ⟨setReg { fr' with locals := Map.set fr.locals name (createInstance ty) } d (.ptr (.loc name) []),
        by rw [hκ], nextRel_set rfl _ rfl hA rfl rfl, Or.inl rfl⟩
    · exact ⟨setReg { fr' with locals := Map.set fr.locals name (createInstance ty) } d (createInstance ty),
        by rw [hκ], nextRel_set rfl _ rfl hA rfl rfl, Or.inl rfl⟩
  | bin d op ty a b =>
    rw [stepI_bin hc, stepI_bin hc']
    exact outRel_liftE (hV a (.head _)) fun x => outRel_liftE (hV b (.tail _ (.head _))) fun y =>
      outRel_liftE rfl fun z => outRel_next_set rfl hκ hL hA _ g
  | cast d ty a =>
    rw [stepI_cast hc, stepI_cast hc']
    exact outRel_liftE (hV a (.head _)) fun x => outRel_liftE rfl fun z => outRel_next_set rfl hκ hL hA _ g
  | br l =>
    rw [stepI_br hc, stepI_br hc']
    exact outRel_jump hlab rfl hL hA l g
  | brc p t f =>
    rw [stepI_brc hc, stepI_brc hc']
    refine outRel_liftE (hV p (.head _)) fun v => ?_
    split <;> exact outRel_jump hlab rfl hL hA _ g
  | ret o =>
    cases o with
    | none =>
      rw [stepI_ret_none hc, stepI_ret_none hc', hA]
      rfl
    | some o =>
      rw [stepI_ret_some hc, stepI_ret_some hc', hA]
      exact outRel_liftE (hV o (.head _)) fun v => rfl
  | call d ty fn args =>
    have hvs := evalVals_congr hL hA g σ args hO
    rw [stepI_call hc, stepI_call hc', hvs]
    cases hvs' : evalVals fr g args with
    | error e => exact Or.inr rfl
    | ok vs =>
      simp only [liftE]
      cases hr : cf fn vs g with
      | done v g1 as =>
        rw [hcf fn vs g (by rw [hr]; nofun), hr]
        exact outRel_next_set rfl hκ hL hA _ g1
      | fail e =>
        by_cases he : e = .timeout
        · subst he
          exact Or.inl ⟨rfl, d, ty, fn, args, vs, rfl, hvs', hvs.trans hvs', hr⟩
        · rw [hcf fn vs g (by rw [hr]; intro h; cases h; exact he rfl), hr]
          exact Or.inr rfl
  | loadArr d ty arr idx =>
    rw [stepI_loadArr hc, stepI_loadArr hc']
    refine outRel_liftE (hO arr (.head _)) fun a => outRel_liftE (hV idx (.tail _ (.head _))) fun i => ?_
    split
    · refine outRel_liftE (by rw [hR]) fun c => outRel_liftE rfl fun k => outRel_liftE rfl fun x => ?_
      split <;> exact outRel_next_set rfl hκ hL hA _ g
    · exact outRel_liftE rfl fun k => outRel_liftE rfl fun x => outRel_next_set rfl hκ hL hA _ g
  | storeArr arr idx src =>
    rw [stepI_storeArr hc, stepI_storeArr hc']
    refine outRel_liftE (hO arr (.head _)) fun a => outRel_liftE (hV idx (.tail _ (.head _))) fun i =>
      outRel_liftE (hO src (.tail _ (.tail _ (.head _)))) fun v => ?_
    split
    · exact outRel_fail _
    · split
      · exact outRel_liftE (hR _) fun root => outRel_liftE rfl fun c => outRel_liftE rfl fun k =>
          outRel_liftE rfl fun root' => outRel_write rfl hκ hL hA g _ _
      · exact outRel_liftE rfl fun k => outRel_next_same rfl hκ hL hA g
  | loadMem d ty obj field =>
    rw [stepI_loadMem hc, stepI_loadMem hc']
    refine outRel_liftE (hO obj (.head _)) fun a => ?_
    split
    · refine outRel_liftE (by rw [hR]) fun c => outRel_liftE rfl fun x => ?_
      split <;> exact outRel_next_set rfl hκ hL hA _ g
    · exact outRel_liftE rfl fun x => outRel_next_set rfl hκ hL hA _ g
  | storeMem obj field src =>
    rw [stepI_storeMem hc, stepI_storeMem hc']
    refine outRel_liftE (hO obj (.head _)) fun a => outRel_liftE (hO src (.tail _ (.head _))) fun v => ?_
    split
    · exact outRel_fail _
    · split
      · exact outRel_liftE (hR _) fun root => outRel_liftE rfl fun root' => outRel_write rfl hκ hL hA g _ _
      · exact outRel_next_same rfl hκ hL hA g
      · exact outRel_fail _
  | vecGet d ty v idx =>
    rw [stepI_vecGet hc, stepI_vecGet hc']
    exact outRel_liftE (hV v (.head _)) fun a => outRel_liftE (hV idx (.tail _ (.head _))) fun i =>
      outRel_liftE rfl fun k => outRel_liftE rfl fun x => outRel_next_set rfl hκ hL hA _ g
  | matGet d ty m idx =>
    rw [stepI_matGet hc, stepI_matGet hc']
    exact outRel_liftE (hV m (.head _)) fun a => outRel_liftE (hV idx (.tail _ (.head _))) fun i =>
      outRel_liftE rfl fun k => outRel_liftE rfl fun x => outRel_next_set rfl hκ hL hA _ g
  | vecSet d ty v idx src =>
    rw [stepI_vecSet hc, stepI_vecSet hc']
    exact outRel_liftE (hV v (.head _)) fun a => outRel_liftE (hV idx (.tail _ (.head _))) fun i =>
      outRel_liftE (hV src (.tail _ (.tail _ (.head _)))) fun x => outRel_liftE rfl fun k =>
      outRel_liftE rfl fun a' => outRel_next_set rfl hκ hL hA _ g
  | matSet d ty m idx src =>
    rw [stepI_matSet hc, stepI_matSet hc']
    exact outRel_liftE (hV m (.head _)) fun a => outRel_liftE (hV idx (.tail _ (.head _))) fun i =>
      outRel_liftE (hV src (.tail _ (.tail _ (.head _)))) fun x => outRel_liftE rfl fun k =>
      outRel_liftE rfl fun a' => outRel_next_set rfl hκ hL hA _ g
  | shuffle d ty a b idx =>
    rw [stepI_shuffle hc, stepI_shuffle hc']
    exact outRel_liftE (hV a (.head _)) fun x => outRel_liftE (hV b (.tail _ (.head _))) fun y =>
      outRel_liftE rfl fun z => outRel_next_set rfl hκ hL hA _ g
  | construct d ty vals =>
    rw [stepI_construct hc, stepI_construct hc']
    exact outRel_liftE (evalVals_congr hL hA g σ vals hO) fun vs => outRel_liftE rfl fun z =>
      outRel_next_set rfl hκ hL hA _ g

end Opt
end Nsl
