import Nsl.Model.VectorCore
import Nsl.Proofs.SimRun
import Nsl.Proofs.ExceptList
/-!
# Vector core: shapes of values, the typing invariant of frames and globals, typing of the VM's value operations
-/
namespace Nsl
namespace Vec
open Core VM CoreSem Lower Sim

theorem isAtom_noPtr {v : Val} (h : isAtom v = true) : Val.isPtr v = false := by
  cases v <;> simp_all [isAtom, Val.isPtr]

theorem fitsVec_inv {n : Nat} {v : Val} (h : fitsVec n v = true) :
    ∃ vs, v = .list vs ∧ vs.length = n ∧ ∀ x ∈ vs, isAtom x = true := by
  cases v <;> simp [fitsVec] at h
  exact ⟨_, rfl, h.1, h.2⟩

theorem fitsVec_mk {n : Nat} {vs : List Val} (hl : vs.length = n) (ha : ∀ x ∈ vs, isAtom x = true) :
    fitsVec n (.list vs) = true := by
  simp [fitsVec, hl]; exact ha

theorem fits_vec {n : Nat} {v : Val} : fits (.vec n) v = fitsVec n v := by
  cases v <;> rfl

theorem fits_atom {v : Val} : fits .atom v = isAtom v := by
  cases v <;> rfl

theorem fits_unit {v : Val} : fits .unit v = isAtom v := by
  cases v <;> rfl

theorem fits_mat_inv {r c : Nat} {v : Val} (h : fits (.mat r c) v = true) :
    ∃ rows, v = .list rows ∧ rows.length = r ∧ ∀ x ∈ rows, fitsVec c x = true := by
  cases v <;> simp [fits] at h
  exact ⟨_, rfl, h.1, h.2⟩

theorem fits_mat_mk {r c : Nat} {rows : List Val} (hl : rows.length = r) (ha : ∀ x ∈ rows, fitsVec c x = true) :
    fits (.mat r c) (.list rows) = true := by
  simp [fits, hl]; exact ha

theorem fits_noPtr {s : Sh} {v : Val} (h : fits s v = true) : Val.isPtr v = false := by
  cases s with
  | atom => rw [fits_atom] at h; exact isAtom_noPtr h
  | unit => rw [fits_unit] at h; exact isAtom_noPtr h
  | vec n => rw [fits_vec] at h; obtain ⟨vs, rfl, _, _⟩ := fitsVec_inv h; rfl
  | mat r c => obtain ⟨rows, rfl, _, _⟩ := fits_mat_inv h; rfl
  | bad => cases v <;> simp [fits] at h

theorem fits_slot_none {s : Sh} (h : s.slot = true) : fits s .none = true := by
  cases s <;> simp [Sh.slot] at h <;> rfl

theorem shape_atom {ty : ITy} (h : shape ty = .atom) : ∃ s, ty = .sc s := by
  cases ty <;> simp [shape] at h
  exact ⟨_, rfl⟩

theorem shape_vec {ty : ITy} {n : Nat} (h : shape ty = .vec n) : ∃ s, ty = .vec s n := by
  cases ty <;> simp [shape] at h
  subst h; exact ⟨_, rfl⟩

theorem shape_mat {ty : ITy} {r c : Nat} (h : shape ty = .mat r c) : ∃ s, ty = .mat s r c := by
  cases ty <;> simp [shape] at h
  obtain ⟨rfl, rfl⟩ := h; exact ⟨_, rfl⟩

theorem nonagg_of_shape {ty : ITy} (h : (shape ty != .bad) = true) : ty.isAggregate = false := by
  cases ty <;> simp [shape] at h <;> rfl

theorem isScalar_shape {ty : ITy} (h : ty.isScalar = true) : shape ty = .atom := by
  cases ty <;> simp [ITy.isScalar] at h; rfl

theorem isVector_shape {ty : ITy} (h : ty.isVector = true) : ∃ s n, ty = .vec s n := by
  cases ty <;> simp [ITy.isVector] at h; exact ⟨_, _, rfl⟩

def FrTy (ps : List (String × ITy)) (Γ : Map String Sh) (fr : Frame) : Prop :=
  (∀ x v s, Map.get fr.locals x = some v → Map.get Γ x = some s → fits s v = true) ∧ ArgsFit ps fr.args

def GTy (M : Core.Module) (g : Globals) : Prop := GlobalsFit M.globals g

theorem varSh_inv {M : Core.Module} {ps : List (String × ITy)} {Γ : Map String Sh} {sc : Scope} {key : VarKey} {s : Sh}
    (h : varSh M ps Γ sc key = some s) :
    (∃ x, sc = .local ∧ key = .name x ∧ Map.get Γ x = some s) ∨
    (∃ i p, sc = .arg ∧ key = .index i ∧ ps[i]? = some p ∧ shape p.2 = s) ∨
    (∃ n t, sc = .global ∧ key = .name n ∧ Map.get M.globals n = some t ∧ shape t = s) := by
  cases sc with
  | «local» =>
    cases key with
    | name x => exact Or.inl ⟨x, rfl, rfl, h⟩
    | index i => simp [varSh] at h
  | arg =>
    cases key with
    | name x => simp [varSh] at h
    | index i =>
      simp only [varSh, Option.map_eq_some_iff] at h
      obtain ⟨p, hp, hs⟩ := h
      exact Or.inr (Or.inl ⟨i, p, rfl, rfl, hp, hs⟩)
  | global =>
    cases key with
    | name n =>
      simp only [varSh, Option.map_eq_some_iff] at h
      obtain ⟨t, ht, hs⟩ := h
      exact Or.inr (Or.inr ⟨n, t, rfl, rfl, ht, hs⟩)
    | index i => simp [varSh] at h

theorem readRoot_fits {M : Core.Module} {ps : List (String × ITy)} {Γ : Map String Sh} {fr : Frame} {g : Globals}
    {sc : Scope} {key : VarKey} {s : Sh} {root : Root} {v : Val}
    (hv : varSh M ps Γ sc key = some s) (hroot : rootOf sc key = .ok root) (hr : readRoot fr g root = .ok v)
    (hf : FrTy ps Γ fr) (hg : GTy M g) : fits s v = true := by
  rcases varSh_inv hv with ⟨x, rfl, rfl, hx⟩ | ⟨i, p, rfl, rfl, hp, rfl⟩ | ⟨n, t, rfl, rfl, ht, rfl⟩
  · simp only [rootOf, Except.ok.injEq] at hroot; subst hroot
    simp only [readRoot] at hr
    cases hm : Map.get fr.locals x with
    | none => simp [hm] at hr
    | some y => simp only [hm, Except.ok.injEq] at hr; subst hr; exact hf.1 _ _ _ hm hx
  · simp only [rootOf, Except.ok.injEq] at hroot; subst hroot
    simp only [readRoot] at hr
    cases hm : fr.args[i]? with
    | none => simp [hm] at hr
    | some y => simp only [hm, Except.ok.injEq] at hr; subst hr; exact hf.2 _ _ _ hp hm
  · simp only [rootOf, Except.ok.injEq] at hroot; subst hroot
    simp only [readRoot] at hr
    cases hm : Map.get g n with
    | none => simp [hm] at hr
    | some y => simp only [hm, Except.ok.injEq] at hr; subst hr; exact hg _ _ _ ht hm

theorem FrTy.setLocal {ps : List (String × ITy)} {Γ : Map String Sh} {fr : Frame} (hf : FrTy ps Γ fr) {x : String}
    {v : Val} (hv : ∀ s, Map.get Γ x = some s → fits s v = true) :
    FrTy ps Γ { fr with locals := Map.set fr.locals x v } := by
  refine ⟨?_, hf.2⟩
  intro x' v' s' hget hs
  by_cases hx : x = x'
  · subst hx
    simp only [Map.get_set_eq, Option.some.injEq] at hget
    subst hget; exact hv _ hs
  · simp only [Map.get_set_ne _ _ _ _ hx] at hget
    exact hf.1 _ _ _ hget hs

theorem writeRoot_fits {M : Core.Module} {ps : List (String × ITy)} {Γ : Map String Sh} {fr : Frame} {g : Globals}
    {sc : Scope} {key : VarKey} {s : Sh} {root : Root} {v : Val} {fr1 : Frame} {g1 : Globals}
    (hv : varSh M ps Γ sc key = some s) (hroot : rootOf sc key = .ok root) (hfit : fits s v = true)
    (hw : writeRoot fr g root v = .ok (fr1, g1)) (hf : FrTy ps Γ fr) (hg : GTy M g) :
    FrTy ps Γ fr1 ∧ GTy M g1 := by
  rcases varSh_inv hv with ⟨x, rfl, rfl, hx⟩ | ⟨i, p, rfl, rfl, hp, rfl⟩ | ⟨n, t, rfl, rfl, ht, rfl⟩
  · simp only [rootOf, Except.ok.injEq] at hroot; subst hroot
    simp only [writeRoot, Except.ok.injEq, Prod.mk.injEq] at hw
    obtain ⟨rfl, rfl⟩ := hw
    refine ⟨hf.setLocal ?_, hg⟩
    intro s' hs'
    rw [hx] at hs'; cases hs'; exact hfit
  · simp only [rootOf, Except.ok.injEq] at hroot; subst hroot
    simp only [writeRoot] at hw
    by_cases hi : i < fr.args.length
    · rw [if_pos hi] at hw
      simp only [Except.ok.injEq, Prod.mk.injEq] at hw
      obtain ⟨rfl, rfl⟩ := hw
      refine ⟨⟨hf.1, ?_⟩, hg⟩
      intro j p' a hp' ha
      simp only at ha
      by_cases hj : i = j
      · subst hj
        simp only [List.getElem?_set_self hi, Option.some.injEq] at ha
        subst ha
        rw [hp] at hp'; cases hp'; exact hfit
      · rw [List.getElem?_set_ne hj] at ha
        exact hf.2 _ _ _ hp' ha
    · rw [if_neg hi] at hw; cases hw
  · simp only [rootOf, Except.ok.injEq] at hroot; subst hroot
    simp only [writeRoot, Except.ok.injEq, Prod.mk.injEq] at hw
    obtain ⟨rfl, rfl⟩ := hw
    refine ⟨hf, ?_⟩
    intro n' t' v' ht' hget
    by_cases hx : n = n'
    · subst hx
      simp only [Map.get_set_eq, Option.some.injEq] at hget
      subst hget
      rw [ht] at ht'; cases ht'; exact hfit
    · simp only [Map.get_set_ne _ _ _ _ hx] at hget
      exact hg _ _ _ ht' hget

theorem createInstance_fits {ty : ITy} (h : (shape ty != .bad) = true) : fits (shape ty) (createInstance ty) = true := by
  cases ty with
  | sc s => rfl
  | vec s n => simp [shape, createInstance, fits, fitsVec, isAtom]
  | mat s r c => simp [shape, createInstance, fits, fitsVec, isAtom]
  | void => rfl
  | arr e d => simp [shape] at h
  | struct n f => simp [shape] at h

theorem isNum_isAtom {v : Val} (h : v.isNum = true) : isAtom v = true := by
  cases v <;> first | rfl | cases h

theorem scalarBin_atom {o : SOp} {it : Bool} {a b z : Val} (h : scalarBin o it a b = .ok z) : isAtom z = true :=
  isNum_isAtom (scalarBin_ok_num h)

theorem castScalar_atom {s : Sc} {a z : Val} (h : castScalar s a = .ok z) : isAtom z = true :=
  isNum_isAtom (castScalar_ok_num h)

theorem zipBin_typed (o : SOp) (it : Bool) (xs ys zs : List Val) (h : zipBin o it xs ys = .ok zs) :
    zs.length = min xs.length ys.length ∧ ∀ z ∈ zs, isAtom z = true :=
  zipE_all
    (zipE_get (f := zipBin o it) (g := scalarBin o it) (fun _ => rfl) (fun xs => by cases xs <;> rfl)
      (fun _ _ _ _ => rfl) h)
    fun _ _ _ _ _ hz => scalarBin_atom hz

theorem mapBinR_typed (o : SOp) (it : Bool) (s : Val) (xs zs : List Val) (h : mapBinR o it s xs = .ok zs) :
    zs.length = xs.length ∧ ∀ z ∈ zs, isAtom z = true :=
  mapE_all (g := fun x => scalarBin o it x s) (mapE_get (f := mapBinR o it s) rfl (fun _ _ => rfl) h)
    fun _ _ _ hz => scalarBin_atom hz

theorem asList_ok {v : Val} {vs : List Val} (h : asList v = .ok vs) : v = .list vs := by
  cases v <;> simp [asList] at h
  subst h; rfl

theorem dotFrom_atom : ∀ (xs ys : List Val) (acc z : Val), isAtom acc = true → dotFrom acc xs ys = .ok z →
    isAtom z = true := by
  intro xs
  induction xs with
  | nil => intro ys acc z ha h; simp [dotFrom] at h; subst h; exact ha
  | cons x xr ih =>
    intro ys acc z ha h
    cases ys with
    | nil => simp [dotFrom] at h; subst h; exact ha
    | cons y yr =>
      simp only [dotFrom, bind, Except.bind] at h
      cases hp : scalarBin .mul false x y with
      | error e => simp [hp] at h
      | ok p =>
        simp only [hp] at h
        cases hq : scalarBin .add false acc p with
        | error e => simp [hq] at h
        | ok q =>
          simp only [hq] at h
          exact ih yr q z (scalarBin_atom hq) h

end Vec
end Nsl
