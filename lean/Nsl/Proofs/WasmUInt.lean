import Nsl.Proofs.WasmInt
/-!
# Unsigned-integer straight-line code incl. `/` and comparisons

The instance of `sim` for `uintInstr`: every local has type `uint` and the first operand of a comparison is a
local, so every operation is selected with the `_u` suffix.
-/
namespace Nsl.Wasm
open VM

theorem runRU_zero (P : Program) (fn : Func) (pc : Nat) (fr : Frame) (g : Globals) :
    runRU P 0 fn pc fr g = .fail .timeout := by
  rw [runRU]

theorem runRU_succ (P : Program) (fuel : Nat) (fn : Func) (pc : Nat) (fr : Frame) (g : Globals) :
    runRU P (fuel + 1) fn pc fr g =
      match stepI (callD P fuel) fn.code pc fr g with
      | .next pc' fr' g' =>
        if frameU32 fr' then runRU P fuel fn pc' fr' g' else .fail (.unsupported "outside-u32")
      | .ret v g' as => .done v g' as
      | .fail e => .fail e := by
  rw [runRU]; rfl

theorem Reaches.of_runRU {P : Program} {f : Func} {n pc fr g v g' as}
    (h : runRU P n f pc fr g = .done v g' as) : Reaches (frameAll valU32) P f n pc fr g v g' as := by
  induction n generalizing pc fr g with
  | zero => rw [runRU_zero] at h; cases h
  | succ n ih =>
    rw [runRU_succ] at h
    split at h
    · rename_i hs
      split at h
      · rename_i hf; exact .next hs hf (ih h)
      · cases h
    · rename_i hs; cases h; exact .ret hs
    · cases h

theorem runRU_run {P : Program} (fuel : Nat) {fn : Func} {pc : Nat} {fr : Frame} {g : Globals}
    {v : Val} {g' : Globals} {as : List Val} (h : runRU P fuel fn pc fr g = .done v g' as) :
    run P fuel fn pc fr g = .done v g' as :=
  (Reaches.of_runRU h).run

theorem Map.mem_of_get_u {κ ν : Type} [DecidableEq κ] : ∀ (m : Map κ ν) (k : κ) (v : ν),
    Map.get m k = some v → (k, v) ∈ m :=
  fun _ _ _ => Map.mem_of_get

theorem frameU32_setReg {fr : Frame} {dst : Nat} {z : Int}
    (h : frameU32 (setReg fr dst (.int z)) = true) : inU32 z :=
  of_decide_eq_true (frameAll.reg (p := valU32) h (r := dst) (Map.get_set_eq ..))

theorem wrap_of_inU32 {x : Int} (h : inU32 x) : wrap x = x := by
  unfold inU32 at h; unfold wrap; omega

theorem binop_agree_unsigned {F : Type} (O : F32Ops F) (op : SOp) (nop : NumOp) (x y z : Int)
    (hsel : numOpFor op .i32u = .ok nop) (hx : inU32 x) (hy : inU32 y)
    (hvm : scalarBin op true (.int x) (.int y) = .ok (.int z)) :
    evalNum O nop (.i32 (wrap x)) (.i32 (wrap y)) = some (.i32 (wrap z)) := by
  cases op with
  | add | sub | mul => exact binop_agree_ring O rfl hsel hvm
  | div =>
    cases hsel
    simp only [scalarBin, if_true] at hvm
    split at hvm <;> cases hvm
    rename_i hy0
    -- on non-negative numbers truncating and flooring division agree, and the quotient is at most the dividend
    have hq : inU32 (x / y) := by
      unfold inU32 at hx hy ⊢
      have h1 := Int.ediv_nonneg hx.1 hy.1
      have h2 := Int.ediv_le_self y hx.1
      omega
    simp only [evalNum, wrap_of_inU32 hx, wrap_of_inU32 hy, if_neg hy0, truncDiv,
      Int.tdiv_eq_ediv_of_nonneg hx.1, wrap_of_inU32 hq]
  | gt | lt | eq =>
    cases hsel
    simp only [scalarBin, cmpInt, Except.ok.injEq] at hvm
    exact congrArg some (boolV_ofBool (by rw [wrap_of_inU32 hx, wrap_of_inU32 hy]) hvm)
  | _ => cases hsel

theorem isUIntTy_eq {t : ITy} (h : isUIntTy t = true) : t = .sc .uint := by
  unfold isUIntTy at h
  split at h
  · rfl
  · cases h

theorem uOpd_ring {o : Opd} (h : uOpd o = true) : ringOpd o = true := by
  cases o with
  | cFlt _ => cases h
  | _ => rfl

theorem refOpd_cases {o : Opd} (h : refOpd o = true) : ∃ r, o = .ref r := by
  cases o with
  | ref r => exact ⟨r, rfl⟩
  | _ => cases h

theorem arithOp_notCmp {op : SOp} (h : (op == .add || op == .sub || op == .mul || op == .div) = true) :
    isSelCmp op = false := by
  cases op <;> cases h <;> rfl

theorem uintInstr_straight {i : Instr} (h : uintInstr i = true) :
    Straight (· = .sc .uint) (uOpd · = true) (fun op a => isSelCmp op = true → refOpd a = true) i := by
  unfold uintInstr at h
  split at h
  · exact .label
  · exact .load (isUIntTy_eq h)
  · exact .store h
  · simp only [Bool.and_eq_true] at h
    obtain ⟨⟨h1, hty⟩, hb⟩ := h
    -- an arithmetic operation on an unsigned operand, or a comparison whose first operand is a reference
    rcases Bool.or_eq_true_iff.1 h1 with h1 | h1 <;> obtain ⟨hop, ha⟩ := Bool.and_eq_true_iff.1 h1
    · exact .bin (isUIntTy_eq hty) ha hb fun hc => by rw [arithOp_notCmp hop] at hc; cases hc
    · obtain ⟨r, rfl⟩ := refOpd_cases ha
      exact .bin (isUIntTy_eq hty) rfl hb fun _ => rfl
  · exact .ret h
  · cases h

/-- A constant of unsigned code is non-negative, and the generator checked that it is below 2^31. -/
theorem opAgree_uint {F : Type} (O : F32Ops F) {ents : List Entry}
    (hents : ∀ e ∈ ents, e.2 = .sc .uint) :
    OpAgree O ents valU32 (· = .sc .uint) (uOpd · = true)
      (fun op a => isSelCmp op = true → refOpd a = true) where
  i32 := fun h => h ▸ rfl
  opd := uOpd_ring
  const := fun hu hr => decide_eq_true (by have := of_decide_eq_true hu; unfold inU32; omega)
  bin := by
    intro op ty a nop x y zv hT _ hB hx hy hsel hz _
    subst hT
    have hnop := selectOp_numOpFor hents rfl (fun hc => .inl (refOpd_cases (hB hc))) hsel
    obtain ⟨z, rfl⟩ := scalarBin_int hz
    exact ⟨z, rfl, binop_agree_unsigned O op nop x y z hnop (of_decide_eq_true hx)
      (of_decide_eq_true hy) hz⟩

end Nsl.Wasm
