import Nsl.Proofs.LowerRules
import Nsl.Proofs.OptSimBase
/-!
# Properties of every instruction of a piece of code

Several invariants of lowered code say that every instruction satisfies a predicate `P`: `All P c`.  `NoLabels`,
`AccIn`, `AccInS`, `AllE` are `All` of a particular predicate, and the lemmas of `All` apply to them as they stand.
Here is what does not depend on `P`.
-/
namespace Nsl
namespace Lower
open Core Opt

theorem forall_lowerModule {M : Core.Module} {P : Func → Prop} (h : ∀ fd ∈ M.fns, P (lowerFn fd)) :
    ∀ f ∈ (lowerModule M).funcs, P f :=
  List.forall_mem_map.2 h

def All (P : Instr → Prop) (c : List Instr) : Prop := ∀ i ∈ c, P i

variable {P : Instr → Prop} {a b c : List Instr} {x : Instr}

theorem All.nil : All P [] := fun _ h => nomatch h

theorem All.append (ha : All P a) (hb : All P b) : All P (a ++ b) := List.forall_mem_append.2 ⟨ha, hb⟩

theorem All.cons (hx : P x) (hc : All P c) : All P (x :: c) := List.forall_mem_cons.2 ⟨hx, hc⟩

theorem All.one (hx : P x) : All P [x] := List.forall_mem_singleton.2 hx

theorem All.snoc (hc : All P c) (hx : P x) : All P (c ++ [x]) := hc.append (.one hx)

theorem All.imp {Q : Instr → Prop} (hPQ : ∀ i, P i → Q i) (h : All P c) : All Q c := fun i hi => hPQ i (h i hi)

theorem forall_mkBin {d : Nat} {t : ITy} (hbin : ∀ o a b, P (.bin d o t a b)) (op : BOp) (a : Opd) (ta : ITy)
    (b : Opd) (tb : ITy) : P (mkBin d op t a ta b tb) := by
  obtain ⟨o, h | h⟩ := mkBin_cases d op t a ta b tb <;> rw [h] <;> exact hbin ..

theorem forall_idxLoad {d : Nat} {t : ITy} {a i : Opd} (harr : P (.loadArr d t a i)) (hvec : P (.vecGet d t a i))
    (hmat : P (.matGet d t a i)) (kind : IdxKind) : P (idxLoad kind d t a i) := by
  cases kind <;> assumption

theorem forall_forBranch {a b : Nat} (hbr : P (.br a)) (hbrc : ∀ p, P (.brc p a b)) (v : Option Opd) :
    P (forBranch v a b) := by
  cases v
  · exact hbr
  · exact hbrc _

theorem All.of_rowCode (hbin : ∀ d o t a b, P (.bin d o t a b)) (hget : ∀ d t m j, P (.matGet d t m j)) {op : BOp}
    {lt rt resT : ITy} {l r : Opd} {k : Nat} {code : List Instr} {rows : List Opd} {k' : Nat}
    (h : RowCode op lt rt resT l r k code rows k') : All P code := by
  have hmk {d t} := forall_mkBin (P := P) (d := d) (t := t) fun _ _ _ => hbin ..
  induction h with
  | nil => exact .nil
  | mm _ _ ih => exact ih.append (.cons (hget ..) (.cons (hget ..) (.one (hmk ..))))
  | ms _ _ ih => exact ih.append (.cons (hget ..) (.one (hmk ..)))
  | sm _ _ ih => exact ih.append (.cons (hget ..) (.one (hmk ..)))

theorem All.of_binTail (hbin : ∀ d o t a b, P (.bin d o t a b)) (hget : ∀ d t m j, P (.matGet d t m j))
    (hcon : ∀ d t vs, P (.construct d t vs)) {op : BOp} {ty lt rt : ITy} {vl vr : Opd} {k : Nat} {ct : List Instr}
    {o : Opd} {k3 : Nat} (h : binTail op ty lt rt vl vr k = (ct, o, k3)) : All P ct :=
  binTail_elim (P := fun ct _ _ => All P ct) (fun _ => .one (hbin ..)) (.one (forall_mkBin (fun _ _ _ => hbin ..) ..))
    (fun hr => (All.of_rowCode hbin hget hr).snoc (hcon ..)) h

theorem All.of_lowerOptE {oe : Option Expr} {k : Nat} {c : List Instr} {o : Option Opd} {k' : Nat}
    (h : lowerOptE oe k = (c, o, k')) (he : ∀ e v, oe = some e → lowerE e k = (c, v, k') → All P c) : All P c :=
  lowerOptE_elim (Q := fun c _ _ => All P c) h (fun _ => .nil) he

/-- A pass keeps a sublist of the code and rewires operands. -/
theorem All.pass (hσ : ∀ σ i, P (substInstr σ i) ↔ P i) {code : List Instr} (h : All P code)
    (decide : Option Instr → Instr → Subst → Option (Nat × Opd)) : All P (pass decide code) := by
  rw [pass_def, All, List.forall_mem_map]
  exact fun j hj => (hσ _ j).2 (h j ((scan_sublist decide code none []).subset hj))

/-- `forwardOK` looks at a `store` directly followed by a `load` of the same variable. -/
theorem forwardOK_of_all
    (hP : ∀ {sc' var src d ty sc}, P (.store sc' var src) → P (.load d ty sc var) → sc' = sc ∧ ty.isAggregate = false) :
    ∀ (c : List Instr) (prev : Option Instr), (∀ p, prev = some p → P p) → All P c → forwardOK prev c = true
  | [], _, _, _ => rfl
  | ins :: rest, prev, hp, hc => by
    have hins := hc ins List.mem_cons_self
    have hrest := forwardOK_of_all hP rest (some ins) (fun p h => Option.some.inj h ▸ hins)
      (fun i hi => hc i (List.mem_cons_of_mem _ hi))
    simp only [forwardOK, hrest, Bool.and_true]
    split
    · split
      · next hv =>
        subst hv
        obtain ⟨rfl, ha⟩ := hP (hp _ rfl) hins
        simp [ha]
      · rfl
    · rfl

end Lower
end Nsl
