import Nsl.Model.SrcMap

/-!
C20: the offset table is `0 :: nlPos 0 s`, strictly increasing, so `bisectRight` on it counts
newlines and dropping lines is dropping characters.
-/

namespace Nsl.SrcMap

/-- Offsets (relative to base `k`) just after every newline of `s`. -/
def nlPos : Nat → List Char → List Nat
  | _, [] => []
  | k, c :: cs => if c = '\n' then (k + 1) :: nlPos (k + 1) cs else nlPos (k + 1) cs

/-- Drop the first `n` lines of `s`, each together with its terminating `'\n'`. -/
def dropLines : Nat → List Char → List Char
  | 0, s => s
  | _ + 1, [] => []
  | n + 1, c :: cs => if c = '\n' then dropLines n cs else dropLines (n + 1) cs

def nlCount (s : List Char) : Nat := (s.filter (· = '\n')).length

theorem nlCount_cons (c : Char) (cs : List Char) :
    nlCount (c :: cs) = nlCount cs + if c = '\n' then 1 else 0 := by
  simp only [nlCount, List.filter_cons]; split <;> simp_all

theorem nlCount_append (x y : List Char) : nlCount (x ++ y) = nlCount x + nlCount y := by
  simp [nlCount, List.filter_append]

theorem nlCount_eq_zero {x : List Char} : nlCount x = 0 ↔ ∀ c ∈ x, c ≠ '\n' := by
  simp [nlCount, List.filter_eq_nil_iff]

theorem nlCount_span (s : List Char) (b e : Nat) (h : b ≤ e) :
    nlCount (s.take e) = nlCount (s.take b) + nlCount ((s.drop b).take (e - b)) := by
  rw [← nlCount_append, ← List.take_add, Nat.add_sub_cancel' h]

theorem splitLines_ne_nil (s : List Char) : splitLines s ≠ [] := by
  induction s with
  | nil => simp [splitLines]
  | cons c cs ih =>
    unfold splitLines
    split
    · simp
    · split <;> simp

theorem lineOffsetsAux_eq (s : List Char) (k : Nat) :
    lineOffsetsAux k (splitLines s) = k :: nlPos k s := by
  induction s generalizing k with
  | nil => simp [splitLines, lineOffsetsAux, nlPos]
  | cons c cs ih =>
    by_cases hc : c = '\n'
    · simp [splitLines, hc, lineOffsetsAux, nlPos, ih]
    · -- the head line grows by one character, so the offset after it is the same
      have h1 := ih (k + 1)
      rcases hs : splitLines cs with _ | ⟨l, ls⟩
      · exact absurd hs (splitLines_ne_nil cs)
      · rw [hs] at h1
        simp only [lineOffsetsAux, List.cons.injEq, true_and] at h1
        simp only [splitLines, hc, if_false, hs, lineOffsetsAux, nlPos, List.length_cons,
          List.cons.injEq, true_and]
        rw [← h1]; congr 1; omega

theorem lineOffsets_eq (s : List Char) : lineOffsets s = 0 :: nlPos 0 s :=
  lineOffsetsAux_eq s 0

theorem nlPos_length (s : List Char) (k : Nat) : (nlPos k s).length = nlCount s := by
  fun_induction nlPos k s <;> simp_all [nlCount]

theorem exists_nat {P : Nat → Prop} : (∃ i, P i) ↔ P 0 ∨ ∃ i, P (i + 1) :=
  ⟨fun ⟨i, h⟩ => match i, h with
    | 0, h => .inl h
    | i + 1, h => .inr ⟨i, h⟩,
   fun h => h.elim (fun h => ⟨0, h⟩) fun ⟨i, h⟩ => ⟨i + 1, h⟩⟩

theorem mem_nlPos_cons {c : Char} {cs : List Char} {k p : Nat} :
    p ∈ nlPos k (c :: cs) ↔ (c = '\n' ∧ p = k + 1) ∨ p ∈ nlPos (k + 1) cs := by
  rw [nlPos]; split <;> simp [*]

theorem mem_nlPos {s : List Char} {k p : Nat} :
    p ∈ nlPos k s ↔ ∃ i, s[i]? = some '\n' ∧ p = k + i + 1 := by
  induction s generalizing k with
  | nil => simp [nlPos]
  | cons c cs ih =>
    rw [mem_nlPos_cons, ih, exists_nat (P := fun i => (c :: cs)[i]? = _ ∧ _)]
    simp only [List.getElem?_cons_zero, List.getElem?_cons_succ, Option.some.injEq, Nat.add_zero,
      ← Nat.add_assoc, Nat.add_right_comm k 1]

theorem nlPos_gt {s : List Char} {k p : Nat} (h : p ∈ nlPos k s) : k < p := by
  obtain ⟨i, _, rfl⟩ := mem_nlPos.1 h; omega

theorem nlPos_sorted (s : List Char) (k : Nat) : (k :: nlPos k s).Pairwise (· < ·) := by
  refine List.pairwise_cons.2 ⟨fun _ => nlPos_gt, ?_⟩
  fun_induction nlPos k s with
  | case1 => exact .nil
  | case2 k cs ih => exact List.pairwise_cons.2 ⟨fun _ => nlPos_gt, ih⟩
  | case3 k c cs hc ih => exact ih

theorem countP_nlPos (s : List Char) (k m : Nat) :
    (nlPos k s).countP (fun y => decide (y ≤ k + m)) = nlCount (s.take m) := by
  induction s generalizing k m with
  | nil => simp [nlPos, nlCount]
  | cons c cs ih =>
    cases m with
    | zero => exact List.countP_eq_zero.2 fun p hp => by have := nlPos_gt hp; simp; omega
    | succ m =>
      rw [nlPos, List.take_succ_cons, nlCount_cons, ← ih (k + 1) m, Nat.add_right_comm k 1 m,
        Nat.add_assoc]
      split
      · rw [List.countP_cons, if_pos (by simp)]
      · rfl

theorem bisectRight_cons (y : Nat) (ys : List Nat) (x : Nat) :
    bisectRight (y :: ys) x = if y ≤ x then bisectRight ys x + 1 else 0 := by
  simp only [bisectRight, List.takeWhile_cons, decide_eq_true_eq]; split <;> rfl

theorem bisectRight_le_length (a : List Nat) (x : Nat) : bisectRight a x ≤ a.length := by
  induction a with
  | nil => exact Nat.le_refl _
  | cons y ys ih => rw [bisectRight_cons, List.length_cons]; split <;> omega

theorem le_of_lt_bisectRight {a : List Nat} {x i v : Nat} (hv : a[i]? = some v)
    (hi : i < bisectRight a x) : v ≤ x := by
  induction a generalizing i with
  | nil => simp at hv
  | cons y ys ih =>
    rw [bisectRight_cons] at hi
    split at hi
    · cases i with
      | zero => cases hv; assumption
      | succ i => exact ih hv (by omega)
    · omega

theorem lt_of_bisectRight_le {a : List Nat} (hs : a.Pairwise (· ≤ ·)) {x i v : Nat}
    (hv : a[i]? = some v) (hi : bisectRight a x ≤ i) : x < v := by
  induction a generalizing i with
  | nil => simp at hv
  | cons y ys ih =>
    rw [List.pairwise_cons] at hs
    rw [bisectRight_cons] at hi
    cases i with
    | zero =>
      cases hv
      split at hi <;> omega
    | succ i =>
      split at hi
      · exact ih hs.2 hv (by omega)
      · have := hs.1 v (List.mem_of_getElem? hv)
        omega

theorem bisectRight_eq_countP {a : List Nat} (hs : a.Pairwise (· ≤ ·)) (x : Nat) :
    bisectRight a x = a.countP (fun y => decide (y ≤ x)) := by
  induction a with
  | nil => rfl
  | cons y ys ih =>
    rw [List.pairwise_cons] at hs
    rw [bisectRight_cons, List.countP_cons, ih hs.2]
    split
    · simp [*]
    · rw [List.countP_eq_zero.2 fun v hv => by have := hs.1 v hv; simp; omega]
      simp [*]

theorem pairwise_getElem? {α} {R : α → α → Prop} {a : List α} (hs : a.Pairwise R) {i j : Nat}
    {u v : α} (hu : a[i]? = some u) (hv : a[j]? = some v) (hij : i < j) : R u v := by
  obtain ⟨hi, rfl⟩ := List.getElem?_eq_some_iff.1 hu
  obtain ⟨hj, rfl⟩ := List.getElem?_eq_some_iff.1 hv
  exact List.pairwise_iff_getElem.1 hs i j hi hj hij

theorem mid_bounds {lo hi : Nat} (h : lo < hi) : lo ≤ (lo + hi) / 2 ∧ (lo + hi) / 2 < hi :=
  ⟨(Nat.le_div_iff_mul_le (by decide)).2 (by omega), (Nat.div_lt_iff_lt_mul (by decide)).2 (by omega)⟩

/-- The reference insertion point `r` stays in `[lo, hi]`: `x < a[mid]` gives `r ≤ mid`, otherwise
    `mid < r`; the loop stops with `lo = hi`, hence at `r`. -/
theorem bisectLoop_eq {a : List Nat} (hs : a.Pairwise (· ≤ ·)) (x : Nat) :
    ∀ fuel lo hi, lo ≤ bisectRight a x → bisectRight a x ≤ hi → hi ≤ a.length → hi ≤ lo + fuel →
      bisectLoop a x fuel lo hi = bisectRight a x := by
  intro fuel
  induction fuel with
  | zero => intro lo hi h1 h2 _ hf; exact Nat.le_antisymm h1 (Nat.le_trans h2 hf)
  | succ fuel ih =>
    intro lo hi h1 h2 hh hf
    rw [bisectLoop]
    split
    · next hlt =>
      obtain ⟨hm1, hm2⟩ := mid_bounds hlt
      simp only []
      generalize (lo + hi) / 2 = mid at hm1 hm2 ⊢
      have hv : a[mid]? = some (a.getD mid 0) := by
        rw [List.getD_eq_getElem?_getD, List.getElem?_eq_getElem (Nat.lt_of_lt_of_le hm2 hh)]; rfl
      split
      · next hx =>
        refine ih lo mid h1 (Nat.le_of_not_lt fun h => ?_) (Nat.le_trans (Nat.le_of_lt hm2) hh)
          (Nat.le_of_lt_succ (Nat.lt_of_lt_of_le hm2 hf))
        exact Nat.not_le_of_lt hx (le_of_lt_bisectRight hv h)
      · next hx =>
        exact ih (mid + 1) hi (Nat.lt_of_not_le fun h => hx (lt_of_bisectRight_le hs hv h)) h2 hh
          (by omega)
    · next hge => exact Nat.le_antisymm h1 (Nat.le_trans h2 (Nat.le_of_not_lt hge))

theorem lineOffsets_sorted' (s : List Char) : (lineOffsets s).Pairwise (· < ·) := by
  rw [lineOffsets_eq]; exact nlPos_sorted s 0

theorem lineOffsets_sorted_le (s : List Char) : (lineOffsets s).Pairwise (· ≤ ·) :=
  (lineOffsets_sorted' s).imp Nat.le_of_lt

theorem bisect_lineOffsets (s : List Char) (o : Nat) :
    bisectRight (lineOffsets s) o = nlCount (s.take o) + 1 := by
  rw [bisectRight_eq_countP (lineOffsets_sorted_le s), lineOffsets_eq, List.countP_cons,
    ← countP_nlPos s 0 o, Nat.zero_add]
  rfl

theorem lineFromOffset_eq (s : List Char) (o : Nat) :
    lineFromOffset s o = nlCount (s.take o) := by
  rw [lineFromOffset, bisect_lineOffsets]; rfl

theorem lineFromOffset_succ (s : List Char) (o : Nat) :
    lineFromOffset s o + 1 = bisectRight (lineOffsets s) o := by
  rw [lineFromOffset_eq, bisect_lineOffsets]

theorem lineFromOffset_lt (s : List Char) (o : Nat) :
    lineFromOffset s o < (lineOffsets s).length := by
  have := bisectRight_le_length (lineOffsets s) o
  rwa [← lineFromOffset_succ] at this

theorem lineStart_getElem? (s : List Char) (o : Nat) :
    (lineOffsets s)[lineFromOffset s o]? = some (lineStart s (lineFromOffset s o)) := by
  rw [lineStart, List.getD_eq_getElem?_getD, List.getElem?_eq_getElem (lineFromOffset_lt s o)]; rfl

theorem lineStart_le_all (s : List Char) (o : Nat) : lineStart s (lineFromOffset s o) ≤ o :=
  le_of_lt_bisectRight (lineStart_getElem? s o) (lineFromOffset_succ s o ▸ Nat.lt_succ_self _)

theorem lineStart_is_start (s : List Char) (o : Nat) :
    lineStart s (lineFromOffset s o) = 0 ∨
      s[lineStart s (lineFromOffset s o) - 1]? = some '\n' := by
  have h := List.mem_of_getElem? (lineStart_getElem? s o)
  rw [lineOffsets_eq, List.mem_cons, mem_nlPos] at h
  refine h.imp_right ?_
  rintro ⟨i, hi, hp⟩
  rw [hp]; simpa using hi

/-- A newline at `i < o` puts `i + 1` into the table at or before the line of `o`, and the table
    is strictly increasing. -/
theorem no_newline_between (s : List Char) (o i : Nat)
    (h1 : lineStart s (lineFromOffset s o) ≤ i) (h2 : i < o) : s[i]? ≠ some '\n' := by
  intro hi
  have hm : i + 1 ∈ lineOffsets s := by
    rw [lineOffsets_eq]; exact .tail _ (mem_nlPos.2 ⟨i, hi, (Nat.zero_add _).symm ▸ rfl⟩)
  obtain ⟨j, hj⟩ := List.mem_iff_getElem?.1 hm
  have hn := lineStart_getElem? s o
  rcases Nat.lt_trichotomy j (lineFromOffset s o) with h | h | h
  · have := pairwise_getElem? (lineOffsets_sorted' s) hj hn h; omega
  · subst h; have := Option.some.inj (hj.symm.trans hn); omega
  · have := lt_of_bisectRight_le (lineOffsets_sorted_le s) hj (by rw [← lineFromOffset_succ]; exact h)
    omega

theorem dropLines_eq_drop (s : List Char) (k n p : Nat) (hp : (k :: nlPos k s)[n]? = some p) :
    ∃ d, p = k + d ∧ dropLines n s = s.drop d := by
  fun_induction dropLines n s generalizing k with
  | case1 s => exact ⟨0, by simpa using hp.symm, rfl⟩
  | case2 n => simp [nlPos] at hp
  | case3 n cs ih =>
    rw [nlPos, if_pos rfl] at hp
    obtain ⟨d, rfl, h⟩ := ih (k + 1) hp
    exact ⟨d + 1, by omega, h⟩
  | case4 n c cs hc ih =>
    rw [nlPos, if_neg hc] at hp
    obtain ⟨d, rfl, h⟩ := ih (k + 1) hp
    exact ⟨d + 1, by omega, h⟩

theorem dropLines_lineFromOffset (s : List Char) (o : Nat) :
    dropLines (lineFromOffset s o) s = s.drop (lineStart s (lineFromOffset s o)) := by
  have h := lineStart_getElem? s o
  rw [lineOffsets_eq] at h
  obtain ⟨d, hd, h⟩ := dropLines_eq_drop s 0 _ _ h
  rw [h, hd, Nat.zero_add]

theorem designates (s : List Char) (o : Nat) :
    (dropLines (lineFromOffset s o) s).drop (o - lineStart s (lineFromOffset s o)) = s.drop o := by
  rw [dropLines_lineFromOffset, List.drop_drop, Nat.add_sub_cancel' (lineStart_le_all s o)]

theorem column_in_line (s : List Char) (o : Nat) :
    ∀ ch ∈ (dropLines (lineFromOffset s o) s).take (o - lineStart s (lineFromOffset s o)),
      ch ≠ '\n' := by
  intro ch hch hnl
  subst hnl
  rw [dropLines_lineFromOffset] at hch
  obtain ⟨j, hj⟩ := List.mem_iff_getElem?.1 hch
  rw [List.getElem?_take] at hj
  split at hj
  · rw [List.getElem?_drop] at hj
    exact no_newline_between s o _ (by omega) (by omega) hj
  · simp at hj

theorem format_spec {s : List Char} {b e l c c' : Nat} {ol : Option Nat}
    (hf : format s ⟨b, e⟩ = (l, c, ol, c')) :
    l = lineFromOffset s b + 1 ∧ c = b - lineStart s (lineFromOffset s b) + 1 ∧
    ol.getD l = lineFromOffset s e + 1 ∧ c' = e - lineStart s (lineFromOffset s e) + 1 ∧
    (ol = none ↔ lineFromOffset s b = lineFromOffset s e) := by
  simp only [format] at hf
  split at hf <;> cases hf <;> simp [*]

theorem merge_nil (x : Span) : merge x [] = x := rfl

theorem merge_cons (x y : Span) (l : List Span) : merge x (y :: l) = merge (mergeStep x y) l := rfl

theorem Span.ext' : ∀ {x y : Span}, x.b = y.b → x.e = y.e → x = y
  | ⟨_, _⟩, ⟨_, _⟩, rfl, rfl => rfl

end Nsl.SrcMap
