import Nsl.Model.IRType
import Nsl.Proofs.ListVals
/-!
# IR typing: facts about types and typed values (no frames, no instructions)

Each definition of the value typing gets a characterisation, and the proofs further up use only these.  Reading and
writing a component of a typed tree is one statement (`key_ok`, `path_ok`).
-/
namespace Nsl
namespace IRType
open VM

section
variable {κ α β : Type} [DecidableEq κ]

theorem get_cons (k' k : κ) (a : α) (m : Map κ α) :
    Map.get ((k', a) :: m) k = if k' = k then some a else Map.get m k := rfl

theorem set_cons (k' k : κ) (a b : α) (m : Map κ α) :
    Map.set ((k', a) :: m) k b = if k' = k then (k', b) :: m else (k', a) :: Map.set m k b := rfl

theorem get_mapVal (f : α → β) (m : Map κ α) (k : κ) :
    Map.get (m.map fun p => (p.1, f p.2)) k = (Map.get m k).map f := by
  induction m with
  | nil => rfl
  | cons p rest ih =>
    rw [List.map_cons, get_cons, get_cons, ih]
    split <;> rfl

/-- the shape of every "the variables / registers hold what the checker says" statement -/
def MapRel (R : α → β → Prop) (m : Map κ α) (m' : Map κ β) : Prop :=
  ∀ k a, Map.get m k = some a → ∃ b, Map.get m' k = some b ∧ R a b

namespace MapRel
variable {R : α → β → Prop} {m d : Map κ α} {m' : Map κ β}

theorem nil : MapRel R ([] : Map κ α) m' := fun _ _ h => nomatch h

theorem set (h : MapRel R m m') {k : κ} {a : α} {b : β} (hab : R a b) : MapRel R (Map.set m k a) (Map.set m' k b) := by
  intro k' a' hg
  by_cases hk : k = k'
  · subst hk
    rw [Map.get_set_eq] at hg
    cases hg
    exact ⟨b, Map.get_set_eq _ _ _, hab⟩
  · rw [Map.get_set_ne _ _ _ _ hk] at hg ⊢
    exact h k' a' hg

theorem set_right (h : MapRel R m m') {k : κ} {b : β} (hk : ∀ a, Map.get m k = some a → R a b) :
    MapRel R m (Map.set m' k b) := by
  intro k' a' hg
  by_cases hkk : k = k'
  · subst hkk
    exact ⟨b, Map.get_set_eq _ _ _, hk a' hg⟩
  · rw [Map.get_set_ne _ _ _ _ hkk]
    exact h k' a' hg

theorem map_left {R' : α → β → Prop} {f : α → α} (h : MapRel R m m') (hf : ∀ a b, R a b → R' (f a) b) :
    MapRel R' (m.map fun p => (p.1, f p.2)) m' := by
  intro k a hg
  rw [get_mapVal] at hg
  obtain ⟨a0, ha0, rfl⟩ := Option.map_eq_some_iff.1 hg
  exact (h k a0 ha0).imp fun b hb => ⟨hb.1, hf a0 b hb.2⟩

theorem sub (h : MapRel R m m') (hd : ∀ k a, Map.get d k = some a → Map.get m k = some a) : MapRel R d m' :=
  fun k a hg => h k a (hd k a hg)

end MapRel
end

theorem tyBeq_fieldsBeq_eq :
    (∀ a b, tyBeq a b = true → a = b) ∧ ∀ a b : List (String × ITy), fieldsBeq a b = true → a = b := by
  -- `tyBeq.eq_7` and `fieldsBeq.eq_3` are the equations of the two catch-all arms
  refine tyBeq.mutual_induct (fun a b => tyBeq a b = true → a = b) (fun a b => fieldsBeq a b = true → a = b)
    ?_ ?_ ?_ ?_ ?_ ?_ ?_ ?_ ?_ ?_
  · intro a b h; simp only [tyBeq, beq_iff_eq] at h; rw [h]
  · intro a n b m h; simp only [tyBeq, Bool.and_eq_true, beq_iff_eq] at h; rw [h.1, h.2]
  · intro a r c b r' c' h; simp only [tyBeq, Bool.and_eq_true, beq_iff_eq] at h; rw [h.1.1, h.1.2, h.2]
  · intro e ds e' ds' ih h; simp only [tyBeq, Bool.and_eq_true, beq_iff_eq] at h; rw [ih h.1, h.2]
  · intro n fs n' fs' ih h; simp only [tyBeq, Bool.and_eq_true, beq_iff_eq] at h; rw [h.1, ih h.2]
  · intro _; rfl
  · intro t x h1 h2 h3 h4 h5 h6 h; rw [tyBeq.eq_7 t x h1 h2 h3 h4 h5 h6] at h; cases h
  · intro _; rfl
  · intro n t r m u s ih1 ih2 h
    simp only [fieldsBeq, Bool.and_eq_true, beq_iff_eq] at h
    rw [h.1.1, ih1 h.1.2, ih2 h.2]
  · intro t x h1 h2 h; rw [fieldsBeq.eq_3 t x h1 h2] at h; cases h

theorem tyBeq_eq : ∀ a b, tyBeq a b = true → a = b := tyBeq_fieldsBeq_eq.1

theorem fieldsBeq_eq : ∀ a b, fieldsBeq a b = true → a = b := tyBeq_fieldsBeq_eq.2

theorem locsSub_get {d cur : Locs} (h : locsSub d cur = true) {n : String} {T : ITy} (hg : Map.get d n = some T) :
    Map.get cur n = some T := by
  have := List.all_eq_true.1 h _ (Map.mem_of_get hg)
  simp only at this
  split at this
  · rename_i T' hT
    rw [hT, tyBeq_eq _ _ this]
  · cases this

theorem scOK_iff {s : Sc} {v : Val} : scOK s v = true ↔ (∃ i, v = .int i) ∨ (s = .float ∧ ∃ f, v = .flt f) := by
  constructor
  · intro h
    unfold scOK at h
    split at h
    · exact .inl ⟨_, rfl⟩
    · exact .inr ⟨rfl, _, rfl⟩
    · cases h
  · rintro (⟨i, rfl⟩ | ⟨rfl, f, rfl⟩)
    · cases s <;> rfl
    · rfl

theorem scOK_cases {s : Sc} {v : Val} (h : scOK s v = true) : (∃ i, v = .int i) ∨ (∃ f, v = .flt f) :=
  (scOK_iff.1 h).imp_right (·.2)

theorem scOK_int (s : Sc) (i : Int) : scOK s (.int i) = true := scOK_iff.2 (.inl ⟨i, rfl⟩)

theorem scOK_float (v : Val) (h : (∃ i, v = .int i) ∨ (∃ f, v = .flt f)) : scOK .float v = true :=
  scOK_iff.2 (h.imp_right fun hf => ⟨rfl, hf⟩)

theorem scOK_isInt {s : Sc} {v : Val} (hs : scInt s = true) (h : scOK s v = true) : ∃ i, v = .int i :=
  (scOK_iff.1 h).elim id fun ⟨e, _⟩ => by subst e; cases hs

theorem scInt_false {s : Sc} (h : scInt s = false) : s = .float := by
  cases s with
  | float => rfl
  | _ => cases h

theorem scLe_float {b : Sc} (h : scLe .float b = true) : b = .float := by
  cases b with
  | float => rfl
  | _ => cases h

theorem scOK_le {a b : Sc} {v : Val} (hle : scLe a b = true) (h : scOK a v = true) : scOK b v = true :=
  scOK_iff.2 ((scOK_iff.1 h).imp_right fun ⟨e, hf⟩ => ⟨scLe_float (e ▸ hle), hf⟩)

theorem scOK_ofBool (s : Sc) (b : Bool) : scOK s (Val.ofBool b) = true := scOK_int s _

theorem dimsOK_nil (leaf : Val → Bool) (v : Val) : dimsOK leaf [] v = leaf v := by
  cases v <;> rfl

theorem dimsOK_list {leaf : Val → Bool} {d : Nat} {ds : List Nat} {vs : List Val} :
    dimsOK leaf (d :: ds) (.list vs) = true ↔ vs.length = d ∧ ∀ x ∈ vs, dimsOK leaf ds x = true := by
  simp only [dimsOK, Bool.and_eq_true, beq_iff_eq, List.all_eq_true]

theorem dimsOK_cons {leaf : Val → Bool} {d : Nat} {ds : List Nat} {v : Val} :
    dimsOK leaf (d :: ds) v = true ↔ ∃ vs, v = .list vs ∧ vs.length = d ∧ ∀ x ∈ vs, dimsOK leaf ds x = true := by
  constructor
  · intro h
    cases v with
    | list vs => exact ⟨vs, rfl, dimsOK_list.1 h⟩
    | _ => cases h
  · rintro ⟨vs, rfl, h⟩
    exact dimsOK_list.2 h

theorem dimsOK_mono {leaf leaf' : Val → Bool} (h : ∀ v, leaf v = true → leaf' v = true) (ds : List Nat) (v : Val)
    (hv : dimsOK leaf ds v = true) : dimsOK leaf' ds v = true := by
  induction ds generalizing v with
  | nil => rw [dimsOK_nil] at hv ⊢; exact h v hv
  | cons d ds ih =>
    obtain ⟨vs, rfl, hl, hall⟩ := dimsOK_cons.1 hv
    exact dimsOK_list.2 ⟨hl, fun x hx => ih x (hall x hx)⟩

@[simp] theorem valOK_sc (s : Sc) (v : Val) : valOK (.sc s) v = scOK s v := by simp only [valOK]
@[simp] theorem valOK_vec (s : Sc) (n : Nat) (v : Val) : valOK (.vec s n) v = dimsOK (scOK s) [n] v := by
  simp only [valOK]
@[simp] theorem valOK_mat (s : Sc) (r c : Nat) (v : Val) : valOK (.mat s r c) v = dimsOK (scOK s) [r, c] v := by
  simp only [valOK]
theorem valOK_arr (e : ITy) (ds : List Nat) (v : Val) :
    valOK (.arr e ds) v = (!ds.isEmpty && dimsOK (valOK e) ds v) := by simp only [valOK]
theorem valOK_struct (n : String) (fs : List (String × ITy)) (v : Val) :
    valOK (.struct n fs) v = true ↔ ∃ vs, v = .struct vs ∧ fieldsOK fs vs = true := by
  constructor
  · intro h
    cases v with
    | struct vs => exact ⟨vs, rfl, by simpa only [valOK] using h⟩
    | _ => simp only [valOK] at h; cases h
  · rintro ⟨vs, rfl, h⟩
    simpa only [valOK] using h
theorem valOK_void (v : Val) : valOK .void v = true ↔ v = .none := by
  cases v <;> simp [valOK]

theorem vec_iff {s : Sc} {n : Nat} {v : Val} :
    valOK (.vec s n) v = true ↔ ∃ vs, v = .list vs ∧ vs.length = n ∧ ∀ x ∈ vs, scOK s x = true := by
  rw [valOK_vec, dimsOK_cons]
  simp only [dimsOK_nil]

theorem mat_iff {s : Sc} {r c : Nat} {v : Val} :
    valOK (.mat s r c) v = true ↔
      ∃ rows, v = .list rows ∧ rows.length = r ∧ ∀ x ∈ rows, valOK (.vec s c) x = true := by
  rw [valOK_mat, dimsOK_cons]
  simp only [valOK_vec]

theorem arr_iff {e : ITy} {d : Nat} {ds : List Nat} {v : Val} :
    valOK (.arr e (d :: ds)) v = true ↔
      ∃ vs, v = .list vs ∧ vs.length = d ∧ ∀ x ∈ vs, valOK (elemTy e ds) x = true := by
  have helem : ∀ x, valOK (elemTy e ds) x = dimsOK (valOK e) ds x := fun x => by
    cases ds with
    | nil => rw [dimsOK_nil]; rfl
    | cons d' ds' => rw [elemTy, valOK_arr]; rfl
  rw [valOK_arr, List.isEmpty_cons, Bool.not_false, Bool.true_and, dimsOK_cons]
  simp only [helem]

theorem valOK_not_ptr (t : ITy) (r : Root) (p : List Key) : valOK t (.ptr r p) = false := by
  cases t with
  | sc s => cases s <;> rfl
  | vec s n => simp [dimsOK]
  | mat s r c => simp [dimsOK]
  | arr e ds =>
    rw [valOK_arr]
    cases ds <;> simp [dimsOK]
  | struct n fs => simp [valOK]
  | void => simp [valOK]

theorem valOK_ne_ptr {t : ITy} {v : Val} (h : valOK t v = true) (r : Root) (p : List Key) : v ≠ .ptr r p := by
  intro e
  rw [e, valOK_not_ptr] at h
  cases h

theorem valOK_agg {t : ITy} {v : Val} (ha : t.isAggregate = true) (h : valOK t v = true) : isAggVal v = true := by
  cases t with
  | arr e ds =>
    cases ds with
    | nil => rw [valOK_arr] at h; cases h
    | cons d ds =>
      obtain ⟨vs, rfl, _⟩ := arr_iff.1 h
      rfl
  | struct n fs =>
    obtain ⟨vs, rfl, _⟩ := (valOK_struct n fs v).1 h
    rfl
  | _ => cases ha

theorem vec_le {s s' : Sc} {c : Nat} {x : Val} (hle : scLe s s' = true) (h : valOK (.vec s c) x = true) :
    valOK (.vec s' c) x = true := by
  rw [valOK_vec] at h ⊢
  exact dimsOK_mono (fun _ hv => scOK_le hle hv) _ _ h

theorem compat_valOK {a b : ITy} {v : Val} (hc : compat a b = true) (h : valOK a v = true) : valOK b v = true := by
  unfold compat at hc
  split at hc
  · rw [valOK_sc] at h ⊢
    exact scOK_le hc h
  · simp only [Bool.and_eq_true, beq_iff_eq] at hc
    obtain ⟨hle, rfl⟩ := hc
    exact vec_le hle h
  · simp only [Bool.and_eq_true, beq_iff_eq] at hc
    obtain ⟨⟨hle, rfl⟩, rfl⟩ := hc
    rw [valOK_mat] at h ⊢
    exact dimsOK_mono (fun _ hv => scOK_le hle hv) _ _ h
  · rw [← tyBeq_eq _ _ hc]
    exact h

theorem compat_refl_of_beq {a b : ITy} (h : tyBeq a b = true) : a = b := tyBeq_eq a b h

theorem valsOK_nil {vs : List Val} (h : valsOK [] vs = true) : vs = [] := by
  cases vs with
  | nil => rfl
  | cons => cases h

theorem valsOK_cons {t : ITy} {ts : List ITy} {vs : List Val} (h : valsOK (t :: ts) vs = true) :
    ∃ v vs', vs = v :: vs' ∧ valOK t v = true ∧ valsOK ts vs' = true := by
  cases vs with
  | nil => cases h
  | cons v vs' =>
    rw [valsOK, Bool.and_eq_true] at h
    exact ⟨v, vs', rfl, h⟩

theorem valsOK_compat {as bs : List ITy} {vs : List Val} (hc : compatAll as bs = true) (h : valsOK as vs = true) :
    valsOK bs vs = true := by
  induction as generalizing bs vs with
  | nil =>
    cases bs with
    | nil => exact h
    | cons => cases hc
  | cons a as ih =>
    cases bs with
    | nil => cases hc
    | cons b bs =>
      obtain ⟨v, vs, rfl, hv, hvs⟩ := valsOK_cons h
      rw [compatAll, Bool.and_eq_true] at hc
      rw [valsOK, Bool.and_eq_true]
      exact ⟨compat_valOK hc.1 hv, ih hc.2 hvs⟩

theorem fieldsOK_cons {n m : String} {t : ITy} {v : Val} {r : List (String × ITy)} {s : List (String × Val)} :
    fieldsOK ((n, t) :: r) ((m, v) :: s) = true ↔ n = m ∧ valOK t v = true ∧ fieldsOK r s = true := by
  simp only [fieldsOK, Bool.and_eq_true, beq_iff_eq, and_assoc]

theorem fieldsOK_key {fs : List (String × ITy)} {vs : List (String × Val)} {n : String} {t : ITy}
    (h : fieldsOK fs vs = true) (hg : Map.get fs n = some t) :
    ∃ x, Map.get vs n = some x ∧ valOK t x = true ∧
      ∀ y, valOK t y = true → fieldsOK fs (Map.set vs n y) = true := by
  induction fs generalizing vs with
  | nil => cases hg
  | cons p r ih =>
    obtain ⟨m, u⟩ := p
    cases vs with
    | nil => rw [fieldsOK] at h; cases h
    | cons q s =>
      obtain ⟨m', v⟩ := q
      obtain ⟨rfl, hv, hr⟩ := fieldsOK_cons.1 h
      rw [get_cons] at hg ⊢
      by_cases hm : m = n
      · rw [if_pos hm] at hg ⊢
        cases hg
        exact ⟨v, rfl, hv, fun y hy => by rw [set_cons, if_pos hm]; exact fieldsOK_cons.2 ⟨rfl, hy, hr⟩⟩
      · rw [if_neg hm] at hg ⊢
        obtain ⟨x, hx, hxo, hset⟩ := ih hr hg
        exact ⟨x, hx, hxo, fun y hy => by rw [set_cons, if_neg hm]; exact fieldsOK_cons.2 ⟨rfl, hv, hset y hy⟩⟩

theorem tyAtKey_inv {T T' : ITy} {k : Key} (h : tyAtKey T k = some T') :
    (∃ e d ds i, T = .arr e (d :: ds) ∧ k = .idx i ∧ i < d ∧ T' = elemTy e ds) ∨
      ∃ nm fs n, T = .struct nm fs ∧ k = .fld n ∧ Map.get fs n = some T' := by
  unfold tyAtKey at h
  split at h
  · split at h
    · rename_i hlt; cases h; exact .inl ⟨_, _, _, _, rfl, rfl, hlt, rfl⟩
    · cases h
  · exact .inr ⟨_, _, _, rfl, rfl, h⟩
  · cases h

theorem arr_key {e : ITy} {n k : Nat} {ds : List Nat} (h : k < n) :
    tyAtKey (.arr e (n :: ds)) (.idx k) = some (elemTy e ds) := by
  simp only [tyAtKey, h, if_true]

theorem fld_key {nm : String} {fs : List (String × ITy)} {f : String} {t : ITy} (h : Map.get fs f = some t) :
    tyAtKey (.struct nm fs) (.fld f) = some t := h

/-- what is read has the component type, and any value of that type may be written back -/
theorem key_ok {T T' : ITy} {v : Val} {k : Key} (hv : valOK T v = true) (hk : tyAtKey T k = some T') :
    ∃ x, getKey v k = .ok x ∧ valOK T' x = true ∧
      ∀ y, valOK T' y = true → ∃ v', setKey v k y = .ok v' ∧ valOK T v' = true := by
  rcases tyAtKey_inv hk with ⟨e, d, ds, i, rfl, rfl, hi, rfl⟩ | ⟨nm, fs, n, rfl, rfl, hn⟩
  · obtain ⟨vs, rfl, rfl, hall⟩ := arr_iff.1 hv
    refine ⟨vs[i], getKey_idx_iff.2 (List.getElem?_eq_getElem hi), hall _ (List.getElem_mem hi),
      fun y hy => ⟨_, setKey_idx_iff.2 ⟨hi, rfl⟩, ?_⟩⟩
    exact arr_iff.2 ⟨_, rfl, List.length_set, fun z hz => (List.mem_or_eq_of_mem_set hz).elim (hall z) (· ▸ hy)⟩
  · obtain ⟨vs, rfl, hf⟩ := (valOK_struct nm fs v).1 hv
    obtain ⟨x, hx, hxo, hset⟩ := fieldsOK_key hf hn
    exact ⟨x, by simp only [getKey, hx], hxo, fun y hy => ⟨_, rfl, (valOK_struct nm fs _).2 ⟨_, rfl, hset y hy⟩⟩⟩

theorem key_get {T T' : ITy} {v : Val} {k : Key} (hv : valOK T v = true) (hk : tyAtKey T k = some T') :
    ∃ x, getKey v k = .ok x ∧ valOK T' x = true :=
  (key_ok hv hk).imp fun _ h => ⟨h.1, h.2.1⟩

theorem tyAt_cons {T T' : ITy} {k : Key} {ks : List Key} :
    tyAt T (k :: ks) = some T' ↔ ∃ T1, tyAtKey T k = some T1 ∧ tyAt T1 ks = some T' := by
  rw [tyAt]
  cases tyAtKey T k with
  | none => exact ⟨nofun, fun ⟨_, h, _⟩ => nomatch h⟩
  | some T1 => exact ⟨fun h => ⟨T1, rfl, h⟩, fun ⟨_, h1, h2⟩ => by cases h1; exact h2⟩

theorem path_ok {p : List Key} {T T' : ITy} {v : Val} (hv : valOK T v = true) (hp : tyAt T p = some T') :
    ∃ x, getPath v p = .ok x ∧ valOK T' x = true ∧
      ∀ y, valOK T' y = true → ∃ v', setPath v p y = .ok v' ∧ valOK T v' = true := by
  induction p generalizing T v with
  | nil =>
    cases hp
    exact ⟨v, rfl, hv, fun y hy => ⟨y, rfl, hy⟩⟩
  | cons k ks ih =>
    obtain ⟨T1, hk, hp⟩ := tyAt_cons.1 hp
    obtain ⟨c, hc, hco, hcset⟩ := key_ok hv hk
    obtain ⟨x, hx, hxo, hxset⟩ := ih hco hp
    refine ⟨x, by simp only [getPath, hc, hx, bind, Except.bind], hxo, fun y hy => ?_⟩
    obtain ⟨c', hc', hco'⟩ := hxset y hy
    obtain ⟨v', hv', hvo'⟩ := hcset c' hco'
    exact ⟨v', by simp only [setPath, hc, hc', hv', bind, Except.bind], hvo'⟩

theorem path_get {p : List Key} {T T' : ITy} {v : Val} (hv : valOK T v = true) (hp : tyAt T p = some T') :
    ∃ x, getPath v p = .ok x ∧ valOK T' x = true :=
  (path_ok hv hp).imp fun _ h => ⟨h.1, h.2.1⟩

theorem path_set {p : List Key} {T T' : ITy} {v x : Val} (hv : valOK T v = true) (hp : tyAt T p = some T')
    (hx : valOK T' x = true) : ∃ v', setPath v p x = .ok v' ∧ valOK T v' = true :=
  (path_ok hv hp).elim fun _ h => h.2.2 x hx

theorem tyAt_snoc {p : List Key} {T T1 T2 : ITy} {k : Key} (hp : tyAt T p = some T1) (hk : tyAtKey T1 k = some T2) :
    tyAt T (p ++ [k]) = some T2 := by
  induction p generalizing T with
  | nil =>
    cases hp
    exact tyAt_cons.2 ⟨T2, hk, rfl⟩
  | cons j ks ih =>
    obtain ⟨T', hj, hp⟩ := tyAt_cons.1 hp
    exact tyAt_cons.2 ⟨T', hj, ih hp⟩

theorem createDims_ok {leaf : Val → Bool} {x : Val} (hx : leaf x = true) (ds : List Nat) :
    dimsOK leaf ds (createDims x ds) = true := by
  induction ds with
  | nil => rw [dimsOK_nil]; exact hx
  | cons d ds ih =>
    rw [createDims]
    refine dimsOK_list.2 ⟨List.length_replicate, fun y hy => ?_⟩
    rw [(List.mem_replicate.1 hy).2]
    exact ih

theorem createInstance_vec (s : Sc) (n : Nat) : createInstance (.vec s n) = createDims (.int 0) [n] := rfl

theorem createInstance_mat (s : Sc) (r c : Nat) : createInstance (.mat s r c) = createDims (.int 0) [r, c] := rfl

mutual
theorem createInstance_ok : ∀ t, wfTy t = true → valOK t (createInstance t) = true
  | .sc s, _ => scOK_int s 0
  | .vec s n, _ => by
    rw [valOK_vec, createInstance_vec]
    exact createDims_ok (scOK_int s 0) [n]
  | .mat s r c, _ => by
    rw [valOK_mat, createInstance_mat]
    exact createDims_ok (scOK_int s 0) [r, c]
  | .arr e ds, h => by
    simp only [wfTy, Bool.and_eq_true] at h
    rw [valOK_arr, h.1, Bool.true_and, createInstance]
    exact createDims_ok (createInstance_ok e h.2) ds
  | .struct n fs, h => by
    simp only [wfTy] at h
    exact (valOK_struct n fs _).2 ⟨_, by simp only [createInstance], createFields_ok fs h⟩
  | .void, _ => (valOK_void _).2 (by simp only [createInstance])
theorem createFields_ok : ∀ fs, wfFields fs = true → fieldsOK fs (createFields fs) = true
  | [], _ => by simp only [createFields, fieldsOK, List.isEmpty_nil]
  | (n, t) :: r, h => by
    simp only [wfFields, Bool.and_eq_true] at h
    rw [createFields]
    exact fieldsOK_cons.2 ⟨rfl, createInstance_ok t h.1, createFields_ok r h.2⟩
end

end IRType
end Nsl
