import Nsl.Model.Types

/-!
`resolveBinary` reads its operator only through `isComparison o`, `o = .mul`, `o = .div`, and
`Spec.binary` only through `classify o`: four regimes (`op_cases`), compared on the nine kind pairs.
-/

namespace Nsl.Types
open Spec

theorem commonScalar_eq_wider (a b : Comp) : commonScalar a b = wider a b := by
  cases a <;> cases b <;> rfl

@[simp] theorem Spec.wider_self (a : Comp) : wider a a = a := by
  cases a <;> rfl

theorem Ty.comp_eq_compOf (t : Ty) : t.comp = compOf t := by
  cases t <;> rfl

theorem compOf_build (c : Comp) (s : Shape) : compOf (build c s) = c := by
  cases s <;> rfl

theorem WF_build_shapeOf (c : Comp) (t : Ty) : WF (build c (shapeOf t)) = WF t := by
  cases t <;> rfl

theorem WF_scalar (c : Comp) : WF (.scalar c) = true := rfl

theorem WF_vec {c : Comp} {n : Nat} : WF (.vec c n) = true ↔ 1 ≤ n := by
  simp [WF]

theorem WF_mat {c : Comp} {r k : Nat} : WF (.mat c r k) = true ↔ 1 ≤ r ∧ 1 ≤ k := by
  simp [WF]

theorem op_cases (o : BOp) :
    (isComparison o = true ∧ classify o = .comparison) ∨
    (isComparison o = false ∧ o = .mul) ∨
    (isComparison o = false ∧ o = .div) ∨
    (isComparison o = false ∧ o ≠ .mul ∧ o ≠ .div ∧ classify o = .additive) := by
  cases o <;> decide

theorem isComparison_iff_classify (o : BOp) : isComparison o = true ↔ classify o = .comparison := by
  rcases op_cases o with ⟨h, hc⟩ | ⟨h, rfl⟩ | ⟨h, rfl⟩ | ⟨h, _, _, hc⟩
  · simp [h, hc]
  · simp [h, classify]
  · simp [h, classify]
  · simp [h, hc]

theorem resultComp_classify (o : BOp) (c : Comp) :
    resultComp (classify o) c = if isComparison o then .int else c := by
  by_cases h : isComparison o = true
  · rw [if_pos h, (isComparison_iff_classify o).1 h]; rfl
  · rw [if_neg h]
    unfold resultComp
    split
    · next hc => exact absurd ((isComparison_iff_classify o).2 hc) h
    · rfl

theorem operands_of_binary_eq_some {o : BOp} {l r res lt rt : Ty} (h : binary o l r = some (res, lt, rt)) :
    lt = build (wider (compOf l) (compOf r)) (shapeOf l) ∧
    rt = build (wider (compOf l) (compOf r)) (shapeOf r) ∧
    compOf res = if isComparison o then .int else wider (compOf l) (compOf r) := by
  simp only [binary, Option.map_eq_some_iff, Prod.mk.injEq] at h
  obtain ⟨s, -, rfl, rfl, rfl⟩ := h
  exact ⟨rfl, rfl, by rw [compOf_build, resultComp_classify]⟩

theorem resultShape_additive (s s' : Shape) :
    resultShape .additive s s' = if s = s' then some s else none := by
  cases s <;> cases s' <;> simp [resultShape]

theorem resultShape_wf {cls : OpClass} {s s' t : Shape} (h : resultShape cls s s' = some t)
    (c : Comp) (hs : WF (build c s) = true) (hs' : WF (build c s') = true) :
    WF (build c t) = true := by
  cases cls <;> cases s <;> cases s' <;>
    simp [resultShape, productShape] at h <;> grind [WF, build]

theorem binary_wf {o : BOp} {l r res lt rt : Ty} (hl : WF l = true) (hr : WF r = true)
    (h : binary o l r = some (res, lt, rt)) : WF res = true ∧ WF lt = true ∧ WF rt = true := by
  simp only [binary, Option.map_eq_some_iff, Prod.mk.injEq] at h
  obtain ⟨s, hs, rfl, rfl, rfl⟩ := h
  have hl' := fun c => (WF_build_shapeOf c l).trans hl
  have hr' := fun c => (WF_build_shapeOf c r).trans hr
  exact ⟨resultShape_wf hs _ (hl' _) (hr' _), hl' _, hr' _⟩

/-- With a size 0 the code rejects, except that `+ - % && ||` accept two identical operands unseen.
`simp` evaluates the kind tests and the table; `grind` is left with `mkVec`, `mkMat` (`0 < n`)
succeeding exactly where `WF` holds. -/
theorem resolveBinary_eq_binary_or_none (o : BOp) (l r : Ty) :
    resolveBinary o l r =
      if (WF l ∧ WF r) ∨ (l = r ∧ classify o = .additive) then binary o l r else none := by
  unfold resolveBinary binary
  rcases op_cases o with ⟨h, hc⟩ | ⟨h, rfl⟩ | ⟨h, rfl⟩ | ⟨h, hm, hd, hc⟩
  · -- comparisons
    rw [if_pos h, hc]
    cases l <;> cases r <;>
      simp [Ty.kind, Ty.isMat, Ty.isVec, commonPrimitive, commonScalar_eq_wider,
        WF_scalar, WF_vec, WF_mat, shapeOf, compOf, resultShape, resultComp, build]
    grind [mkVec]
  · -- `*`
    rw [if_neg (by decide)]
    cases l <;> cases r <;>
      simp [Ty.kind, Ty.isScalar, Ty.isMat, Ty.isVec, Ty.comp_eq_compOf, commonPrimitive, withComp,
        commonScalar_eq_wider, WF_scalar, WF_vec, WF_mat, shapeOf, compOf, resultShape,
        resultComp, build, classify, rowsColumns, productShape]
    all_goals grind [Spec.wider_self, mkVec, mkMat]
  · -- `/`
    rw [if_neg (by decide)]
    cases l <;> cases r <;>
      simp [Ty.kind, Ty.isScalar, Ty.comp_eq_compOf, commonPrimitive, withComp,
        commonScalar_eq_wider, WF_scalar, WF_vec, WF_mat, shapeOf, compOf, resultShape,
        resultComp, build, classify]
    all_goals grind [Spec.wider_self, mkVec, mkMat]
  · -- `+ - % && ||`
    rw [h, hc]
    cases l <;> cases r <;>
      simp [hm, hd, Ty.kind, commonPrimitive, commonScalar_eq_wider,
        WF_scalar, WF_vec, WF_mat, shapeOf, compOf, resultShape, resultComp, build]
    all_goals grind [Spec.wider_self, mkVec, mkMat]

theorem resolveBinary_eq_binary (o : BOp) {l r : Ty} (hl : WF l = true) (hr : WF r = true) :
    resolveBinary o l r = binary o l r := by
  rw [resolveBinary_eq_binary_or_none, if_pos (.inl ⟨hl, hr⟩)]

end Nsl.Types
