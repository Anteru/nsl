import Nsl.Proofs.WFBlock
import Nsl.Proofs.OptSimPres
/-!
# The optimiser preserves the structural well-formedness conditions (C14 for optimised IR)

A pass keeps all label markers and the targets of kept branches; calls keep callee and number of arguments.
-/
namespace Nsl
namespace Opt
open WF

theorem optCode_defsDistinct {code : List Instr} (hd : defsDistinct code = true) :
    defsDistinct (optCode code) = true :=
  nodup_defsDistinct (optCode_defs_nodup (defsDistinct_nodup hd))

section
variable {decide : Option Instr → Instr → Subst → Option (Nat × Opd)}

theorem scan_labels (hdef : DecideDef decide) (σ' : Subst) : ∀ (code : List Instr) (prev : Option Instr) (σ : Subst),
    ((scan decide prev code σ).1.map (substInstr σ')).filterMap labelOf = code.filterMap labelOf
  | [], _, _ => rfl
  | ins :: rest, prev, σ => by
    cases hd : decide prev ins σ with
    | some p =>
      obtain ⟨d, o⟩ := p
      rw [scan_cons_some hd, List.filterMap_cons_none (labelOf_of_defOf (hdef _ _ _ _ _ hd))]
      exact scan_labels hdef σ' rest _ _
    | none =>
      rw [scan_cons_none hd, List.map_cons, List.filterMap_cons, List.filterMap_cons, labelOf_substInstr,
        scan_labels hdef σ' rest]

theorem pass_labels (hdef : DecideDef decide) (code : List Instr) :
    (pass decide code).filterMap labelOf = code.filterMap labelOf :=
  scan_labels hdef _ code none []

theorem pass_labelsDistinct (hdef : DecideDef decide) {code : List Instr} (h : labelsDistinct code = true) :
    labelsDistinct (pass decide code) = true := by
  unfold labelsDistinct at h ⊢
  rw [pass_labels hdef]
  exact h

theorem mem_pass {code : List Instr} {i' : Instr} (h : i' ∈ pass decide code) :
    ∃ σ ins, ins ∈ code ∧ i' = substInstr σ ins := by
  obtain ⟨ins, hm, rfl⟩ := List.mem_map.1 h
  exact ⟨_, ins, (scan_sublist decide code none []).subset hm, rfl⟩

theorem pass_targetsOK (hdef : DecideDef decide) {code : List Instr} (h : targetsOK code = true) :
    targetsOK (pass decide code) = true := by
  simp only [targetsOK, List.all_eq_true] at h ⊢
  intro i' hi' l hl
  obtain ⟨σ, ins, hm, rfl⟩ := mem_pass hi'
  rw [targetsOf_substInstr] at hl
  rw [pass_labelPos hdef, Option.isSome_map]
  exact h ins hm l hl

end

theorem optCode_labelsDistinct {code : List Instr} (h : labelsDistinct code = true) :
    labelsDistinct (optCode code) = true :=
  pass_labelsDistinct lasDecide_decideDef (pass_labelsDistinct ccDecide_decideDef h)

theorem optCode_targetsOK {code : List Instr} (h : targetsOK code = true) : targetsOK (optCode code) = true :=
  pass_targetsOK lasDecide_decideDef (pass_targetsOK ccDecide_decideDef h)

theorem callOK_optProgram (P : Program) (i : Instr) : callOK (optProgram P) i = callOK P i := by
  cases i with
  | call d t f args =>
    simp only [callOK, find_optProgram]
    cases P.find f <;> rfl
  | _ => rfl

theorem optFn_callsOK {fn : Func} {P : Program} (h : callsOK fn P = true) :
    callsOK (optFn fn) (optProgram P) = true := by
  simp only [callsOK, List.all_eq_true] at h ⊢
  intro i2 hi2
  rw [optFn_code] at hi2
  obtain ⟨σ2, i1, hm1, rfl⟩ := mem_pass hi2
  obtain ⟨σ1, i0, hm0, rfl⟩ := mem_pass hm1
  rw [callOK_optProgram, callOK_substInstr, callOK_substInstr]
  exact h i0 hm0

theorem optFn_wfChecks {fn : Func} {P : Program} (h : wfChecks fn P = true) :
    wfChecks (optFn fn) (optProgram P) = true := by
  simp only [wfChecks, Bool.and_eq_true] at h ⊢
  obtain ⟨⟨⟨⟨hb, hd⟩, hl⟩, ht⟩, hc⟩ := h
  exact ⟨⟨⟨⟨optCode_blockLocal hb (defsDistinct_nodup hd), optCode_defsDistinct hd⟩, optCode_labelsDistinct hl⟩,
    optCode_targetsOK ht⟩, optFn_callsOK hc⟩

end Opt
end Nsl
