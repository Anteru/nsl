import Nsl.Proofs.Wasm
import Nsl.Model.WasmEval
/-!
# The generator: what a successful run looked like, and what follows from it

A successful result of each function of the generator is read backwards once (`Push`, `Trans`, `genFunc_ok`, …);
encodability, type-checking and refusal are case analyses on those.
-/
namespace Nsl.Wasm
open Nsl.Leb

-- what the generator returns on a concrete program is compared by evaluation
deriving instance DecidableEq for Except

theorem expandLocals_append (a b : List (Nat × VT)) :
    expandLocals (a ++ b) = expandLocals a ++ expandLocals b := by
  simp [expandLocals, List.flatMap_append]

theorem expand_addLocalRev (acc : List (Nat × VT)) (t : VT) :
    expandLocals (addLocalRev acc t).reverse = expandLocals acc.reverse ++ [t] := by
  cases acc with
  | nil => simp [addLocalRev, expandLocals]
  | cons g r =>
    obtain ⟨n, t'⟩ := g
    by_cases h : t' = t
    · subst h
      simp [addLocalRev, expandLocals, List.flatMap_append, List.replicate_succ']
    · simp [addLocalRev, h, expandLocals, List.flatMap_append]

theorem expand_foldl : ∀ (ts : List VT) (acc : List (Nat × VT)),
    expandLocals (ts.foldl addLocalRev acc).reverse = expandLocals acc.reverse ++ ts
  | [], acc => by simp
  | t :: ts, acc => by
    rw [List.foldl_cons, expand_foldl ts, expand_addLocalRev, List.append_assoc]
    rfl

theorem expand_groupLocals (ts : List VT) : expandLocals (groupLocals ts) = ts := by
  unfold groupLocals
  rw [expand_foldl]
  simp [expandLocals]

theorem lookupRef_getElem : ∀ {es : List Entry} {r i : Nat} {t : ITy},
    lookupRef es r = some (i, t) → es[i]? = some (some r, t)
  | [], _, _, _, h => by cases h
  | (some r', t0) :: es, r, i, t, h => by
    rw [lookupRef] at h
    split at h
    · cases h; subst r'; rfl
    · split at h <;> cases h
      rename_i hl; exact lookupRef_getElem (es := es) hl
  | (none, t0) :: es, r, i, t, h => by
    rw [lookupRef] at h
    split at h <;> cases h
    rename_i hl; exact lookupRef_getElem (es := es) hl

theorem lookupRef_lt {ents : List Entry} {r j : Nat} {t : ITy}
    (h : lookupRef ents r = some (j, t)) : j < ents.length :=
  (List.getElem?_eq_some_iff.1 (lookupRef_getElem h)).1

inductive Push (fb : Float → Option Nat) (argc : Nat) (ents : List Entry) : Opd → WInstr → Prop
  | cInt {v : Int} : -2 ^ 31 ≤ v ∧ v < 2 ^ 31 → Push fb argc ents (.cInt v) (.i32Const v)
  | cFlt {f : Float} {b : Nat} : fb f = some b → Push fb argc ents (.cFlt f) (.f32Const b)
  | ref {r i : Nat} {t : ITy} :
      lookupRef ents r = some (i, t) → Push fb argc ents (.ref r) (.localGet (argc + i))

theorem pushOpd_ok {fb argc ents o w} (h : pushOpd fb argc ents o = .ok w) :
    Push fb argc ents o w := by
  unfold pushOpd at h
  split at h <;> split at h <;> cases h
  · rename_i hr; exact .cInt hr
  · rename_i hf; exact .cFlt hf
  · rename_i hl; exact .ref hl

theorem selectOp_ok {ents op ty a nop} (h : selectOp ents op ty a = .ok nop) :
    ∃ oty ot, (if isSelCmp op then opdITy ents a else .ok ty) = .ok oty ∧ otOfITy oty = .ok ot ∧
      numOpFor op ot = .ok nop := by
  unfold selectOp at h
  split at h; · cases h
  rename_i oty h1
  split at h; · cases h
  rename_i ot h2
  exact ⟨oty, ot, h1, h2, h⟩

inductive Trans (fb : Float → Option Nat) (argc : Nat) (ents : List Entry) :
    Instr → List WInstr → Prop
  | label {l : Nat} : Trans fb argc ents (.label l) []
  | load {dst : Nat} {ty : ITy} {i k : Nat} {t : ITy} : lookupRef ents dst = some (k, t) →
      Trans fb argc ents (.load dst ty .arg (.index i)) [.localGet i, .localSet (argc + k)]
  | store {i : Nat} {src : Opd} {p : WInstr} : Push fb argc ents src p →
      Trans fb argc ents (.store .arg (.index i) src) [p, .localSet i]
  | bin {dst : Nat} {op : SOp} {ty : ITy} {a b : Opd} {nop : NumOp} {pa pb : WInstr} {k : Nat}
      {t : ITy} : selectOp ents op ty a = .ok nop → Push fb argc ents a pa → Push fb argc ents b pb →
      lookupRef ents dst = some (k, t) →
      Trans fb argc ents (.bin dst (.s op) ty a b) [pa, pb, .num nop, .localSet (argc + k)]
  | retNone : Trans fb argc ents (.ret none) [.ret]
  | retSome {v : Opd} {p : WInstr} :
      Push fb argc ents v p → Trans fb argc ents (.ret (some v)) [p, .ret]

theorem transInstr_ok {fb argc ents i ws} (h : transInstr fb argc ents i = .ok ws) :
    Trans fb argc ents i ws := by
  unfold transInstr at h
  split at h
  · cases h; exact .label
  · split at h <;> cases h
    rename_i hl; exact .load hl
  · split at h <;> cases h
    rename_i hp; exact .store (pushOpd_ok hp)
  · split at h; · cases h
    rename_i nop hsel
    split at h; · cases h
    rename_i pa hpa
    split at h; · cases h
    rename_i pb hpb
    split at h <;> cases h
    rename_i hl
    exact .bin hsel (pushOpd_ok hpa) (pushOpd_ok hpb) hl
  · cases h; exact .retNone
  · split at h <;> cases h
    rename_i hp; exact .retSome (pushOpd_ok hp)
  · cases h

theorem transCode_cons_ok {fb argc ents i is body}
    (h : transCode fb argc ents (i :: is) = .ok body) :
    ∃ ws rest, Trans fb argc ents i ws ∧ transCode fb argc ents is = .ok rest ∧ body = ws ++ rest := by
  rw [transCode] at h
  split at h; · cases h
  rename_i ws h1
  split at h <;> cases h
  rename_i rest h2
  exact ⟨ws, rest, transInstr_ok h1, h2, rfl⟩

theorem convertVTs_ok {tys : List ITy} {vts : List VT} (h : convertVTs tys = .ok vts) :
    tys.map convertVT = vts.map .ok := by
  induction tys generalizing vts with
  | nil => cases h; rfl
  | cons t ts ih =>
    rw [convertVTs] at h
    split at h; · cases h
    rename_i v hv
    split at h <;> cases h
    rename_i vs hvs
    rw [List.map_cons, List.map_cons, ih hvs, hv]

theorem genFuncs_ok {fb} {P : List Func} {fcs : List (FuncType × WCode)}
    (h : genFuncs fb P = .ok fcs) : P.map (genFunc fb) = fcs.map .ok := by
  induction P generalizing fcs with
  | nil => cases h; rfl
  | cons f fs ih =>
    rw [genFuncs] at h
    split at h; · cases h
    rename_i x hx
    split at h <;> cases h
    rename_i xs hxs
    rw [List.map_cons, List.map_cons, ih hxs, hx]

section MapOk
variable {α β ε : Type} {f : α → Except ε β} {xs : List α} {ys : List β}

theorem map_ok_length (h : xs.map f = ys.map .ok) : ys.length = xs.length := by
  simpa using (congrArg List.length h).symm

theorem map_ok_getElem? (h : xs.map f = ys.map .ok) {i : Nat} {x : α} (hx : xs[i]? = some x) :
    ∃ y, ys[i]? = some y ∧ f x = .ok y := by
  have := congrArg (·[i]?) h
  simp only [List.getElem?_map, hx, Option.map_some] at this
  cases hy : ys[i]? with
  | none => simp [hy] at this
  | some y => exact ⟨y, rfl, by simpa [hy] using this⟩

theorem map_ok_mem_right (h : xs.map f = ys.map .ok) {y : β} (hy : y ∈ ys) : ∃ x ∈ xs, f x = .ok y :=
  List.mem_map.1 (h ▸ List.mem_map_of_mem hy)

theorem map_ok_mem_left (h : xs.map f = ys.map .ok) {x : α} (hx : x ∈ xs) : ∃ y, f x = .ok y := by
  obtain ⟨y, _, hy⟩ := List.mem_map.1 (h ▸ List.mem_map_of_mem (f := f) hx)
  exact ⟨y, hy.symm⟩

end MapOk

theorem convertFuncType_ok {f : Func} {ft : FuncType} (h : convertFuncType f = .ok ft) :
    convertVTs (f.params.map (·.2)) = .ok ft.params ∧ ft.results.length ≤ 1 := by
  unfold convertFuncType at h
  split at h; · cases h
  rename_i ps hps
  split at h
  · cases h; exact ⟨hps, Nat.zero_le _⟩
  · split at h <;> cases h
    exact ⟨hps, Nat.le_refl _⟩

theorem genFunc_ok {fb f ft c} (h : genFunc fb f = .ok (ft, c)) :
    ∃ ents vts body, convertFuncType f = .ok ft ∧ collectEntries f.params f.code [] = .ok ents ∧
      convertVTs (ents.map (·.2)) = .ok vts ∧
      transCode fb ft.params.length ents f.code = .ok body ∧ retOK ft.results ents f.code = true ∧
      c = ⟨groupLocals vts, body⟩ := by
  unfold genFunc at h
  split at h; · cases h
  rename_i ft' h1
  split at h; · cases h
  rename_i ents h2
  split at h; · cases h
  rename_i vts h3
  split at h; · cases h
  rename_i body h4
  split at h <;> cases h
  rename_i hr
  exact ⟨ents, vts, body, h1, h2, h3, h4, hr, rfl⟩

theorem genWasmWith_ok {fb P m} (h : genWasmWith fb P = .ok m) :
    ∃ fcs, genFuncs fb P = .ok fcs ∧
      m = { types := fcs.map (·.1), funcs := List.range fcs.length, tables := [0],
            exports := mkExports 0 P, codes := fcs.map (·.2) } := by
  unfold genWasmWith at h
  split at h <;> cases h
  rename_i fcs hg
  exact ⟨fcs, hg, rfl⟩

theorem genWasmWith_getElem {fb} {P : List Func} {m} {idx : Nat} {f : Func}
    (h : genWasmWith fb P = .ok m) (hf : P[idx]? = some f) :
    ∃ ft c, genFunc fb f = .ok (ft, c) ∧ m.types[idx]? = some ft ∧ m.funcs[idx]? = some idx ∧
      m.codes[idx]? = some c := by
  obtain ⟨fcs, hg, rfl⟩ := genWasmWith_ok h
  obtain ⟨⟨ft, c⟩, hfc, hgf⟩ := map_ok_getElem? (genFuncs_ok hg) hf
  have hidx := (List.getElem?_eq_some_iff.1 hfc).1
  exact ⟨ft, c, hgf, by simp [hfc], by simp [hidx], by simp [hfc]⟩

def FbOk (fb : Float → Option Nat) : Prop := ∀ f b, fb f = some b → b < 2 ^ 32

theorem packF32_ok : FbOk packF32 := by
  intro f b h
  unfold packF32 at h
  simp only [] at h
  split at h
  · cases h
  · cases h; exact UInt32.toNat_lt _

@[simp] theorem instrWF_localGet (i : Nat) : instrWF (.localGet i) = true := rfl
@[simp] theorem instrWF_localSet (i : Nat) : instrWF (.localSet i) = true := rfl
@[simp] theorem instrWF_num (o : NumOp) : instrWF (.num o) = true := rfl
@[simp] theorem instrWF_ret : instrWF .ret = true := rfl

theorem Push.wf {fb argc ents o w} (hfb : FbOk fb) (h : Push fb argc ents o w) :
    instrWF w = true := by
  cases h with
  | cInt hr => exact decide_eq_true hr
  | cFlt hf => exact decide_eq_true (hfb _ _ hf)
  | ref _ => rfl

theorem Trans.wf {fb argc ents i ws} (hfb : FbOk fb) (h : Trans fb argc ents i ws) :
    ∀ w ∈ ws, instrWF w = true := by
  -- the `instrWF_*` simp lemmas settle the instructions without immediates
  cases h with
  | store hp => simp [hp.wf hfb]
  | bin _ ha hb _ => simp [ha.wf hfb, hb.wf hfb]
  | retSome hp => simp [hp.wf hfb]
  | _ => simp

theorem transCode_wf {fb argc ents} (hfb : FbOk fb) {code : List Instr} {body : List WInstr}
    (h : transCode fb argc ents code = .ok body) : ∀ w ∈ body, instrWF w = true := by
  induction code generalizing body with
  | nil => cases h; exact fun _ h => nomatch h
  | cons i is ih =>
    obtain ⟨ws, rest, h1, h2, rfl⟩ := transCode_cons_ok h
    intro w hw
    rcases List.mem_append.1 hw with hw | hw
    · exact h1.wf hfb w hw
    · exact ih h2 w hw

theorem genWasmWith_wellFormed {fb P m} (hfb : FbOk fb) (h : genWasmWith fb P = .ok m) :
    WellFormed m := by
  obtain ⟨fcs, hg, rfl⟩ := genWasmWith_ok h
  simp only [WellFormed, wellFormed, List.all_eq_true, List.mem_map]
  rintro c ⟨⟨ft, c'⟩, hfc, rfl⟩ w hw
  obtain ⟨f, _, hgen⟩ := map_ok_mem_right (genFuncs_ok hg) hfc
  obtain ⟨ents, vts, body, _, _, _, h4, _, rfl⟩ := genFunc_ok hgen
  exact transCode_wf hfb h4 w hw

/-- The instruction part of `checkBody` (without the final `end`). -/
def checkSeq (locals results : List VT) : TcSt → List WInstr → Option TcSt
  | s, [] => some s
  | s, i :: is =>
    match checkInstr locals results s i with
    | none => none
    | some s' => checkSeq locals results s' is

theorem checkSeq_append {l r : List VT} : ∀ (ws rest : List WInstr) (s s' : TcSt),
    checkSeq l r s ws = some s' → checkSeq l r s (ws ++ rest) = checkSeq l r s' rest
  | [], rest, s, s', h => by cases h; rfl
  | w :: ws, rest, s, s', h => by
    rw [checkSeq] at h
    split at h; · cases h
    rename_i s1 hc
    simp only [List.cons_append, checkSeq, hc]
    exact checkSeq_append ws rest s1 s' h

theorem checkBody_of_seq {l r : List VT} : ∀ (ws : List WInstr) (s s' : TcSt),
    checkSeq l r s ws = some s' → checkBody l r s ws = checkBody l r s' []
  | [], s, s', h => by cases h; rfl
  | w :: ws, s, s', h => by
    rw [checkSeq] at h
    split at h; · cases h
    rename_i s1 hc
    have e : checkBody l r s (w :: ws) = checkBody l r s1 ws := by simp only [checkBody, hc]
    rw [e]
    exact checkBody_of_seq ws s1 s' h

theorem pop_push (s : TcSt) (t : VT) : (s.push t).pop t = some s := by
  cases s; simp [TcSt.push, TcSt.pop]

theorem check_localGet {l r : List VT} {i : Nat} {t : VT} (h : l[i]? = some t) (s : TcSt) :
    checkInstr l r s (.localGet i) = some (s.push t) := by
  simp [checkInstr, h]

theorem check_localSet {l r : List VT} {i : Nat} {t : VT} (h : l[i]? = some t) (s : TcSt) :
    checkInstr l r (s.push t) (.localSet i) = some s := by
  simp [checkInstr, h, pop_push]

theorem check_num {l r : List VT} (op : NumOp) (s : TcSt) :
    checkInstr l r ((s.push op.sig.1).push op.sig.1) (.num op) = some (s.push op.sig.2) := by
  simp [checkInstr, pop_push]

theorem check_ret_nil {l : List VT} (s : TcSt) :
    checkInstr l [] s .ret = some ⟨[], true⟩ := by
  simp [checkInstr, TcSt.popN]

theorem check_ret_one {l : List VT} (t : VT) (s : TcSt) :
    checkInstr l [t] (s.push t) .ret = some ⟨[], true⟩ := by
  simp [checkInstr, TcSt.popN, pop_push]

theorem convertVT_vtOf {t : ITy} {v : VT} (h : convertVT t = .ok v) : vtOfITy t = some v := by
  unfold convertVT at h
  split at h <;> cases h <;> rfl

structure GenCtx (params : List (String × ITy)) (ps : List VT) (ents : List Entry)
    (vts : List VT) : Prop where
  hps : convertVTs (params.map (·.2)) = .ok ps
  hvts : convertVTs (ents.map (·.2)) = .ok vts

theorem GenCtx.ref {params ps ents vts} (c : GenCtx params ps ents vts) {r k : Nat} {t : ITy}
    (h : lookupRef ents r = some (k, t)) :
    ∃ v, refVT ents r = some v ∧ (ps ++ vts)[ps.length + k]? = some v := by
  have h2 : (ents.map (·.2))[k]? = some t := by simp [lookupRef_getElem h]
  obtain ⟨v, hv, hvt⟩ := map_ok_getElem? (convertVTs_ok c.hvts) h2
  exact ⟨v, by simp [refVT, h, convertVT_vtOf hvt], by simp [List.getElem?_append_right, hv]⟩

theorem GenCtx.param {params ps ents vts} (c : GenCtx params ps ents vts) {i : Nat} {v : VT}
    (h : paramVT params i = some v) : (ps ++ vts)[i]? = some v := by
  unfold paramVT at h
  split at h <;> try cases h
  rename_i p hp
  have h2 : (params.map (·.2))[i]? = some p.2 := by simp [hp]
  obtain ⟨w, hw, hwt⟩ := map_ok_getElem? (convertVTs_ok c.hps) h2
  rw [convertVT_vtOf hwt] at h
  cases h
  rw [List.getElem?_append_left (List.getElem?_eq_some_iff.1 hw).1, hw]

theorem Push.check {params ps ents vts fb o w} (c : GenCtx params ps ents vts)
    (h : Push fb ps.length ents o w) :
    ∃ t, opdVT ents o = some t ∧
      ∀ (results : List VT) (s : TcSt), checkInstr (ps ++ vts) results s w = some (s.push t) := by
  cases h with
  | cInt _ => exact ⟨.i32, rfl, fun _ _ => rfl⟩
  | cFlt _ => exact ⟨.f32, rfl, fun _ _ => rfl⟩
  | ref hl =>
    obtain ⟨v, hv, hloc⟩ := c.ref hl
    exact ⟨v, hv, fun _ s => check_localGet hloc s⟩

theorem Trans.check {params ps ents vts fb ins ws} {results : List VT}
    (c : GenCtx params ps ents vts) (h : Trans fb ps.length ents ins ws)
    (ht : typedInstr params results ents ins = true) (s : TcSt) (hs : s.stack = []) :
    ∃ s', checkSeq (ps ++ vts) results s ws = some s' ∧ s'.stack = [] ∧
      (s.unr = true → s'.unr = true) ∧ (isRet ins = true → s'.unr = true) := by
  cases h with
  | label => exact ⟨s, rfl, hs, id, nofun⟩
  | load hl =>
    obtain ⟨v, hv, hloc⟩ := c.ref hl
    simp only [typedInstr, beq_iff_eq, hv] at ht
    refine ⟨s, ?_, hs, id, nofun⟩
    simp only [checkSeq, check_localGet (c.param ht.symm), check_localSet hloc]
  | store hp =>
    obtain ⟨t, hto, hchk⟩ := hp.check c
    simp only [typedInstr, beq_iff_eq, hto] at ht
    refine ⟨s, ?_, hs, id, nofun⟩
    simp only [checkSeq, hchk, check_localSet (c.param ht.symm)]
  | bin hsel ha hb hl =>
    simp only [typedInstr, hsel, Bool.and_eq_true, beq_iff_eq] at ht
    obtain ⟨⟨hta, htb⟩, htd⟩ := ht
    obtain ⟨ta, hta', hca⟩ := ha.check c
    obtain ⟨tb, htb', hcb⟩ := hb.check c
    obtain ⟨v, hv, hloc⟩ := c.ref hl
    rw [hta] at hta'; rw [htb] at htb'; rw [htd] at hv
    cases hta'; cases htb'; cases hv
    refine ⟨s, ?_, hs, id, nofun⟩
    simp only [checkSeq, hca, hcb, check_num, check_localSet hloc]
  | retNone =>
    simp only [typedInstr, List.isEmpty_iff] at ht
    subst ht
    exact ⟨⟨[], true⟩, by simp only [checkSeq, check_ret_nil], rfl, fun _ => rfl, fun _ => rfl⟩
  | retSome hp =>
    obtain ⟨t, hto, hchk⟩ := hp.check c
    simp only [typedInstr, hto, Bool.or_eq_true, List.isEmpty_iff, beq_iff_eq] at ht
    refine ⟨⟨[], true⟩, ?_, rfl, fun _ => rfl, fun _ => rfl⟩
    rcases ht with rfl | rfl
    · simp only [checkSeq, hchk, check_ret_nil]
    · simp only [checkSeq, hchk, check_ret_one]

theorem transCode_check {params ps ents vts fb} {results : List VT}
    (c : GenCtx params ps ents vts) {code : List Instr} {body : List WInstr}
    (h : transCode fb ps.length ents code = .ok body)
    (ht : code.all (typedInstr params results ents) = true) (s : TcSt) (hs : s.stack = []) :
    ∃ s', checkSeq (ps ++ vts) results s body = some s' ∧ s'.stack = [] ∧
      (s.unr = true → s'.unr = true) ∧ (code.any isRet = true → s'.unr = true) := by
  induction code generalizing body s with
  | nil => cases h; exact ⟨s, rfl, hs, id, nofun⟩
  | cons i is ih =>
    obtain ⟨ws, rest, h1, h2, rfl⟩ := transCode_cons_ok h
    simp only [List.all_cons, Bool.and_eq_true] at ht
    obtain ⟨s1, hc1, hs1, hm1, hr1⟩ := h1.check c ht.1 s hs
    obtain ⟨s2, hc2, hs2, hm2, hr2⟩ := ih h2 ht.2 s1 hs1
    refine ⟨s2, ?_, hs2, fun hu => hm2 (hm1 hu), ?_⟩
    · rw [checkSeq_append ws rest s s1 hc1, hc2]
    · intro hany
      simp only [List.any_cons, Bool.or_eq_true] at hany
      rcases hany with hany | hany
      · exact hm2 (hr1 hany)
      · exact hr2 hany

theorem popN_unr : ∀ (ts : List VT) (s : TcSt), s.stack = [] → s.unr = true → s.popN ts = some s
  | [], s, _, _ => rfl
  | t :: ts, s, hs, hu => by
    have : s.pop t = some s := by simp [TcSt.pop, hs, hu]
    simp only [TcSt.popN, this]
    exact popN_unr ts s hs hu

theorem genFunc_check {fb f ft c} (h : genFunc fb f = .ok (ft, c)) (ht : typedFunc f = true) :
    checkCode ft c = true := by
  obtain ⟨ents, vts, body, h1, h2, h3, h4, _, rfl⟩ := genFunc_ok h
  have hps := (convertFuncType_ok h1).1
  simp only [typedFunc, h1, h2, Bool.and_eq_true, Bool.or_eq_true, List.isEmpty_iff] at ht
  obtain ⟨s', hc, hs', _, hr⟩ := transCode_check (results := ft.results) ⟨hps, h3⟩ h4
    ht.1 ⟨[], false⟩ rfl
  simp only [checkCode, expand_groupLocals]
  rw [checkBody_of_seq body _ s' hc]
  -- at `end` either nothing is expected, or the frame is unreachable and every pop succeeds
  rcases ht.2 with h | h
  · simp [h, checkBody, TcSt.popN, hs']
  · simp [checkBody, popN_unr _ s' hs' (hr h), hs']

/-- `pre`: the functions already passed (the induction moves them over from `fcs`); the module is `pre = []`. -/
theorem checkFuncs_gen : ∀ (pre fcs : List (FuncType × WCode)),
    (∀ fc ∈ fcs, checkCode fc.1 fc.2 = true) →
    checkFuncs ((pre ++ fcs).map (·.1)) (List.range' pre.length fcs.length) (fcs.map (·.2)) = true
  | pre, [], _ => by simp [checkFuncs]
  | pre, fc :: fcs, h => by
    have ih := checkFuncs_gen (pre ++ [fc]) fcs (fun x hx => h x (List.mem_cons_of_mem _ hx))
    simp only [List.append_assoc, List.singleton_append, List.length_append, List.length_cons,
      List.length_nil] at ih
    simp only [List.length_cons, List.range'_succ, List.map_cons, checkFuncs, Bool.and_eq_true]
    refine ⟨?_, ih⟩
    have : (List.map (fun x => x.1) (pre ++ fc :: fcs))[pre.length]? = some fc.1 := by
      simp
    simp only [this]
    exact h fc (List.mem_cons_self ..)

theorem mkExports_index : ∀ (P : List Func) (i : Nat), ∀ e ∈ mkExports i P, e.index < i + P.length
  | [], i, e, he => by simp [mkExports] at he
  | f :: fs, i, e, he => by
    simp only [mkExports, List.mem_cons] at he
    rcases he with rfl | he
    · simp
    · have := mkExports_index fs (i + 1) e he
      simp only [List.length_cons]; omega

theorem mkExports_names : ∀ (P : List Func) (i : Nat),
    (mkExports i P).map (·.name) = P.map (·.name)
  | [], i => rfl
  | f :: fs, i => by simp [mkExports, mkExports_names fs (i + 1)]

theorem genWasmWith_valid {fb P m} (h : genWasmWith fb P = .ok m) (ht : IRTyped P) :
    validModule m = true := by
  obtain ⟨fcs, hg, rfl⟩ := genWasmWith_ok h
  simp only [IRTyped, irTyped, Bool.and_eq_true, List.all_eq_true] at ht
  obtain ⟨hdist, htyped⟩ := ht
  have hgf := fun fc hfc => map_ok_mem_right (genFuncs_ok hg) (y := fc) hfc
  -- the clauses of `validModule`, in its order
  have hres : (fcs.map (·.1)).all (fun ft => decide (ft.results.length ≤ 1)) = true := by
    simp only [List.all_eq_true, List.mem_map, decide_eq_true_eq]
    rintro ft ⟨⟨ft', c⟩, hfc, rfl⟩
    obtain ⟨f, _, hgen⟩ := hgf _ hfc
    obtain ⟨_, _, _, h1, _⟩ := genFunc_ok hgen
    exact (convertFuncType_ok h1).2
  have hchk : checkFuncs (fcs.map (·.1)) (List.range fcs.length) (fcs.map (·.2)) = true := by
    rw [List.range_eq_range']
    refine checkFuncs_gen [] fcs fun fc hfc => ?_
    obtain ⟨f, hf, hgen⟩ := hgf fc hfc
    exact genFunc_check (ft := fc.1) (c := fc.2) hgen (htyped f hf)
  have hidx : (mkExports 0 P).all (fun e => decide (e.index < (List.range fcs.length).length)) = true := by
    simp only [List.all_eq_true, decide_eq_true_eq, List.length_range, map_ok_length (genFuncs_ok hg)]
    exact fun e he => by simpa using mkExports_index P 0 e he
  have hnames : distinct ((mkExports 0 P).map (·.name)) = true := mkExports_names P 0 ▸ hdist
  simp only [validModule, hres, hchk, hidx, hnames]
  rfl

theorem numOpFor_supported {op : SOp} {ot : OT} {nop : NumOp} (h : numOpFor op ot = .ok nop) :
    (op == .add || op == .sub || op == .mul || op == .div || op == .eq || op == .lt || op == .gt) =
      true := by
  cases op <;> cases h <;> rfl

theorem Trans.supported {fb argc ents i ws} (h : Trans fb argc ents i ws) : supported i = true := by
  cases h with
  | bin hsel _ _ _ =>
    obtain ⟨_, _, _, _, hnum⟩ := selectOp_ok hsel
    exact numOpFor_supported hnum
  | _ => rfl

theorem transCode_supported {fb argc ents} {code : List Instr} {body : List WInstr}
    (h : transCode fb argc ents code = .ok body) : ∀ i ∈ code, supported i = true := by
  induction code generalizing body with
  | nil => exact fun _ h => nomatch h
  | cons j js ih =>
    obtain ⟨ws, rest, h1, h2, rfl⟩ := transCode_cons_ok h
    intro i hi
    rcases List.mem_cons.1 hi with rfl | hi
    · exact h1.supported
    · exact ih h2 i hi

theorem genWasmWith_supported {fb P m} (h : genWasmWith fb P = .ok m) :
    ∀ f ∈ P, ∀ i ∈ f.code, supported i = true := by
  obtain ⟨fcs, hg, rfl⟩ := genWasmWith_ok h
  intro f hf
  obtain ⟨⟨ft, c⟩, hgf⟩ := map_ok_mem_left (genFuncs_ok hg) hf
  obtain ⟨ents, vts, body, _, _, _, h4, _, _⟩ := genFunc_ok hgf
  exact transCode_supported h4

end Nsl.Wasm
