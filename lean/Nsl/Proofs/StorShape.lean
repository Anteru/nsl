import Nsl.Proofs.LowerShape
import Nsl.Model.StorageCore
/-!
# Storage core: inversion of the predicate

What `okES Γ e`, `placeRank Γ e = some d` and `isLhs e` say about the form of `e`.
-/
namespace Nsl
namespace Lower
open Core

theorem isLhs_inv {x : Expr} (h : isLhs x = true) :
    (∃ sc key ty, x = .var sc key ty) ∨ (∃ ty b i, x = .index .arr ty b i) ∨ (∃ ty b f, x = .member ty b f) := by
  cases x with
  | var sc key ty => exact .inl ⟨_, _, _, rfl⟩
  | index kd ty b i =>
    cases kd with
    | arr => exact .inr (.inl ⟨_, _, _, rfl⟩)
    | vec => simp [isLhs] at h
    | mat => simp [isLhs] at h
  | member ty b f => exact .inr (.inr ⟨_, _, _, rfl⟩)
  | _ => simp [isLhs] at h

theorem placeRank_var_inv {Γ : Env} {sc : Scope} {key : VarKey} {ty : ITy} {d : Nat}
    (h : placeRank Γ (.var sc key ty) = some d) :
    ∃ x, sc = .local ∧ key = .name x ∧ ty.isAggregate = true ∧ Γ x = d ∧ d ≠ 0 := by
  cases sc <;> cases key <;> simp [placeRank] at h
  rename_i x
  obtain ⟨⟨h1, h2⟩, h3⟩ := h
  exact ⟨x, rfl, rfl, h1, h3, by omega⟩

theorem placeRank_index_inv {Γ : Env} {kd : IdxKind} {ty : ITy} {base idx : Expr} {d : Nat}
    (h : placeRank Γ (.index kd ty base idx) = some d) :
    kd = .arr ∧ placeRank Γ base = some (d + 1) ∧ ty.isAggregate = true ∧ okES Γ idx = true ∧ d ≠ 0 := by
  cases kd with
  | arr =>
    simp only [placeRank] at h
    split at h
    · rename_i d' hb
      split at h
      · rename_i hc
        simp only [Bool.and_eq_true] at hc
        simp only [Option.some.injEq] at h
        subst h
        exact ⟨rfl, hb, hc.1, hc.2, by omega⟩
      · cases h
    · cases h
  | vec => simp [placeRank] at h
  | mat => simp [placeRank] at h

theorem placeRank_pos {Γ : Env} {e : Expr} {d : Nat} (h : placeRank Γ e = some d) : d ≠ 0 := by
  cases e with
  | var sc key ty => obtain ⟨_, _, _, _, _, h0⟩ := placeRank_var_inv h; exact h0
  | index kd ty b i => exact (placeRank_index_inv h).2.2.2.2
  | _ => simp [placeRank] at h

theorem okES_index_inv {Γ : Env} {kd : IdxKind} {ty : ITy} {base idx : Expr}
    (h : okES Γ (.index kd ty base idx) = true) :
    kd = .arr ∧ ty.isScalar = true ∧ placeRank Γ base = some 1 ∧ okES Γ idx = true := by
  cases kd with
  | arr =>
    simp only [okES, Bool.and_eq_true, beq_iff_eq] at h
    exact ⟨rfl, h.1.1, h.1.2, h.2⟩
  | vec => simp [okES] at h
  | mat => simp [okES] at h

theorem okES_member_inv {Γ : Env} {ty : ITy} {base : Expr} {f : String}
    (h : okES Γ (.member ty base f) = true) : ty.isScalar = true ∧ placeRank Γ base = some 1 := by
  simp only [okES, Bool.and_eq_true, beq_iff_eq] at h
  exact h

theorem okES_var_inv {Γ : Env} {sc : Scope} {key : VarKey} {ty : ITy} (h : okES Γ (.var sc key ty) = true) :
    ty.isScalar = true ∧ varOKS Γ sc key = true := by
  simpa [okES] using h

theorem isAggregate_of_scalar' {ty : ITy} (h : ty.isScalar = true) : ty.isAggregate = false := by
  cases ty <;> simp [ITy.isScalar] at h
  rfl

theorem lowerStore_shapeS (Γ : Env) : ∀ (e : Expr), isLhs e = true → okES Γ e = true → ∀ (v : Opd) (k : Nat)
      (c : List Instr) (k' : Nat), lowerStore e v k = (c, k') → NoLabels c ∧ k ≤ k' :=
  fun e _ _ => lowerStore_shapeG e

end Lower
end Nsl
