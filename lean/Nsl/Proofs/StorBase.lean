import Nsl.Proofs.SimBase
import Nsl.Proofs.StorShape
import Nsl.Proofs.ListVals
/-!
# Storage core, basic facts: storage trees, the frame invariant, the aggregate instructions of the VM

* `Tree n v` – `v` is a storage tree of depth `n`: `n` navigation steps (list index / struct field) through
  aggregate values lead to a value that is not an alias.  `Tree 0 v` is "`v` is not an alias".
* `FrOKS Γ fr` – every local `x` of the frame is a tree of depth `Γ x`, the arguments are not aliases.
  (Registers are *not* constrained: they may hold aliases into the locals.)
* `DomLe Γ fr' fr` – every aggregate local that exists in `fr'` already existed in `fr`.
* one `stepI` lemma for each of `load` of an aggregate, `loadArr`, `storeArr`, `loadMem`, `storeMem`.
-/
namespace Nsl
namespace Stor
open Core VM CoreSem Lower Sim

theorem getPath_snoc (v : Val) (p : List Key) (k : Key) :
    getPath v (p ++ [k]) = (do let c ← getPath v p; getKey c k) := by
  induction p generalizing v with
  | nil => cases h : getKey v k <;> simp [getPath, h, bind, Except.bind]
  | cons k0 ks ih =>
    cases h : getKey v k0 with
    | error e => simp [getPath, h, bind, Except.bind]
    | ok x => simpa [getPath, h, bind, Except.bind] using ih x

theorem getKey_struct_fld {fs : List (String × Val)} {n : String} {x : Val} :
    getKey (.struct fs) (.fld n) = .ok x ↔ Map.get fs n = some x := by
  simp only [getKey]
  cases h : Map.get fs n <;> simp

theorem indexOf_getKey {c i : Val} {k : Nat} (h : indexOf c i = .ok k) : ∃ x, getKey c (.idx k) = .ok x := by
  cases c with
  | list vs =>
    cases i with
    | int n =>
      simp only [indexOf] at h
      cases hn : normIndex vs.length n with
      | none => simp [hn] at h
      | some k' =>
        simp only [hn, Except.ok.injEq] at h
        subst h
        have hlt : k' < vs.length := by
          unfold normIndex at hn
          split at hn
          · split at hn
            · simp only [Option.some.injEq] at hn; omega
            · cases hn
          · split at hn
            · simp only [Option.some.injEq] at hn; omega
            · cases hn
        exact ⟨vs[k'], by rw [getKey_idx_iff]; exact List.getElem?_eq_getElem hlt⟩
    | _ => simp [indexOf] at h
  | _ => simp [indexOf] at h

def Tree : Nat → Val → Prop
  | 0, v => Val.isPtr v = false
  | n + 1, v => isAggVal v = true ∧ ∀ k x, getKey v k = .ok x → Tree n x

theorem Tree.noPtr : ∀ {n : Nat} {v : Val}, Tree n v → Val.isPtr v = false
  | 0, _, h => h
  | _ + 1, v, h => by
    have h1 := h.1
    cases v <;> simp [isAggVal] at h1 <;> rfl

theorem Tree.agg {n : Nat} {v : Val} (h : Tree (n + 1) v) : isAggVal v = true := h.1

theorem Tree.key {n : Nat} {v x : Val} {k : Key} (h : Tree (n + 1) v) (hk : getKey v k = .ok x) : Tree n x :=
  h.2 k x hk

theorem Tree.path : ∀ (p : List Key) {d : Nat} {v x : Val}, Tree (p.length + d) v → getPath v p = .ok x → Tree d x
  | [], d, v, x, h, hp => by
    simp only [getPath, Except.ok.injEq] at hp
    subst hp
    simpa using h
  | k :: ks, d, v, x, h, hp => by
    simp only [getPath, bind, Except.bind] at hp
    cases hk : getKey v k with
    | error e => simp [hk] at hp
    | ok y =>
      simp only [hk] at hp
      have h' : Tree ((ks.length + d) + 1) v := by
        have : (k :: ks).length + d = (ks.length + d) + 1 := by simp; omega
        rw [this] at h; exact h
      exact Tree.path ks (h'.key hk) hp

theorem Tree.setKey {n : Nat} {v y v' : Val} {k : Key} (h : Tree (n + 1) v) (hy : Tree n y)
    (hs : setKey v k y = .ok v') : Tree (n + 1) v' := by
  cases v with
  | list vs =>
    cases k with
    | idx i =>
      simp only [VM.setKey] at hs
      by_cases hi : i < vs.length
      · rw [if_pos hi] at hs
        simp only [Except.ok.injEq] at hs
        subst hs
        refine ⟨rfl, ?_⟩
        intro k' x hk'
        cases k' with
        | idx j =>
          rw [getKey_idx_iff] at hk'
          rw [List.getElem?_set] at hk'
          by_cases hij : i = j
          · subst hij
            simp only [if_true] at hk'
            rw [if_pos hi] at hk'
            simp only [Option.some.injEq] at hk'; subst hk'; exact hy
          · rw [if_neg hij] at hk'
            exact h.key (k := .idx j) (getKey_idx_iff.2 hk')
        | fld m => simp [getKey] at hk'
      · rw [if_neg hi] at hs; cases hs
    | fld m => simp [VM.setKey] at hs
  | struct fs =>
    cases k with
    | idx i => simp [VM.setKey] at hs
    | fld m =>
      simp only [VM.setKey, Except.ok.injEq] at hs
      subst hs
      refine ⟨rfl, ?_⟩
      intro k' x hk'
      cases k' with
      | idx j => simp [getKey] at hk'
      | fld m' =>
        rw [getKey_struct_fld] at hk'
        by_cases hmm : m = m'
        · subst hmm
          rw [Map.get_set_eq] at hk'
          simp only [Option.some.injEq] at hk'; subst hk'; exact hy
        · rw [Map.get_set_ne _ _ _ _ hmm] at hk'
          exact h.key (k := .fld m') (getKey_struct_fld.2 hk')
  | _ => simp [VM.setKey] at hs

theorem Tree.setPath : ∀ (p : List Key) {d : Nat} {v y v' : Val}, Tree (p.length + d) v → Tree d y →
    setPath v p y = .ok v' → Tree (p.length + d) v'
  | [], d, v, y, v', _, hy, hs => by
    simp only [VM.setPath, Except.ok.injEq] at hs
    subst hs
    simpa using hy
  | k :: ks, d, v, y, v', h, hy, hs => by
    have hlen : (k :: ks).length + d = (ks.length + d) + 1 := by simp; omega
    rw [hlen] at h ⊢
    simp only [VM.setPath, bind, Except.bind] at hs
    cases hk : getKey v k with
    | error e => simp [hk] at hs
    | ok child =>
      simp only [hk] at hs
      cases hc : VM.setPath child ks y with
      | error e => simp [hc] at hs
      | ok child' =>
        simp only [hc] at hs
        exact h.setKey (Tree.setPath ks (h.key hk) hy hc) hs

theorem createDims_noPtr {leaf : Val} (h : Val.isPtr leaf = false) : ∀ dims, Val.isPtr (createDims leaf dims) = false
  | [] => h
  | _ :: _ => rfl

theorem createInstance_noPtr : ∀ (ty : ITy), Val.isPtr (createInstance ty) = false
  | .sc _ => by simp [createInstance, Val.isPtr]
  | .vec _ _ => by simp [createInstance, Val.isPtr]
  | .mat _ _ _ => by simp [createInstance, Val.isPtr]
  | .arr elem dims => by
    have := createInstance_noPtr elem
    simp only [createInstance]
    exact createDims_noPtr this dims
  | .struct _ _ => by simp [createInstance, Val.isPtr]
  | .void => by simp [createInstance, Val.isPtr]

theorem createFields_get : ∀ (fs : List (String × ITy)) {n : String} {x : Val},
    Map.get (createFields fs) n = some x → Val.isPtr x = false
  | [], n, x, h => by simp [createFields] at h
  | (m, t) :: rest, n, x, h => by
    simp only [createFields, Map.get] at h
    by_cases hm : m = n
    · rw [if_pos hm] at h
      simp only [Option.some.injEq] at h
      subst h
      exact createInstance_noPtr t
    · rw [if_neg hm] at h
      exact createFields_get rest h

theorem tree_struct (n : String) (fs : List (String × ITy)) : Tree 1 (createInstance (.struct n fs)) := by
  simp only [createInstance]
  refine ⟨rfl, ?_⟩
  intro k x hk
  cases k with
  | idx i => simp [getKey] at hk
  | fld m =>
    rw [getKey_struct_fld] at hk
    exact createFields_get fs hk

theorem tree_createDims {leaf : Val} {r : Nat} (h : Tree r leaf) : ∀ dims, Tree (dims.length + r) (createDims leaf dims)
  | [] => by simpa [createDims] using h
  | d :: ds => by
    have hlen : (d :: ds).length + r = (ds.length + r) + 1 := by simp; omega
    rw [hlen]
    simp only [createDims]
    refine ⟨rfl, ?_⟩
    intro k x hk
    cases k with
    | idx i =>
      rw [getKey_idx_iff, List.getElem?_replicate] at hk
      split at hk
      · simp only [Option.some.injEq] at hk; subst hk; exact tree_createDims h ds
      · cases hk
    | fld m => simp [getKey] at hk

theorem tree_createInstance (ty : ITy) : Tree (rank ty) (createInstance ty) := by
  cases ty with
  | arr elem dims =>
    have hci : createInstance (.arr elem dims) = createDims (createInstance elem) dims := by
      simp only [createInstance]
    rw [hci]
    cases elem with
    | struct n fs => simpa [rank] using tree_createDims (tree_struct n fs) dims
    | _ => simpa [rank] using tree_createDims (r := 0) (createInstance_noPtr _) dims
  | struct n fs => exact tree_struct n fs
  | _ => exact createInstance_noPtr _

def LocOK (Γ : Env) (m : Map String Val) : Prop := ∀ x v, Map.get m x = some v → Tree (Γ x) v

def FrOKS (Γ : Env) (fr : Frame) : Prop := LocOK Γ fr.locals ∧ ListOK fr.args

def DomLe (Γ : Env) (fr' fr : Frame) : Prop :=
  ∀ x, Γ x ≠ 0 → (Map.get fr'.locals x).isSome = true → (Map.get fr.locals x).isSome = true

theorem DomLe.refl (Γ : Env) (fr : Frame) : DomLe Γ fr fr := fun _ _ h => h

theorem DomLe.trans {Γ : Env} {a b c : Frame} (h1 : DomLe Γ a b) (h2 : DomLe Γ b c) : DomLe Γ a c :=
  fun x hx h => h2 x hx (h1 x hx h)

theorem LocOK.set {Γ : Env} {m : Map String Val} (h : LocOK Γ m) (x : String) {v : Val} (hv : Tree (Γ x) v) :
    LocOK Γ (Map.set m x v) := by
  intro y w hg
  by_cases hk : x = y
  · subst hk
    rw [Map.get_set_eq] at hg
    cases hg; exact hv
  · rw [Map.get_set_ne _ _ _ _ hk] at hg
    exact h y w hg

theorem LocOK.nil (Γ : Env) : LocOK Γ ([] : Map String Val) := by
  intro k v h; simp at h

theorem FrOKS.toFrOK {Γ : Env} {fr : Frame} (h : FrOKS Γ fr) : FrOK fr :=
  ⟨fun k v hk => (h.1 k v hk).noPtr, h.2⟩

theorem readRoot_noPtrS {Γ : Env} {fr : Frame} {g : Globals} {r : Root} {v : Val} (hf : FrOKS Γ fr) (hg : MapOK g)
    (h : readRoot fr g r = .ok v) : Val.isPtr v = false :=
  readRoot_noPtr hf.toFrOK hg h

theorem readRoot_loc {fr : Frame} {g : Globals} {x : String} {v : Val} :
    readRoot fr g (.loc x) = .ok v ↔ Map.get fr.locals x = some v := by
  simp only [readRoot]
  cases h : Map.get fr.locals x <;> simp

theorem readRoot_tree {Γ : Env} {fr : Frame} {g : Globals} {x : String} {v : Val} (hf : FrOKS Γ fr)
    (h : readRoot fr g (.loc x) = .ok v) : Tree (Γ x) v :=
  hf.1 x v (readRoot_loc.1 h)

theorem varOKS_rootOf {Γ : Env} {sc : Scope} {key : VarKey} (h : varOKS Γ sc key = true) :
    ∃ r, rootOf sc key = .ok r ∧ ∀ x, r = .loc x → Γ x = 0 := by
  cases sc <;> cases key <;> simp [varOKS] at h
  · exact ⟨_, rfl, by intro x hx; cases hx⟩
  · exact ⟨_, rfl, by intro x hx; cases hx⟩
  · exact ⟨_, rfl, by intro x hx; cases hx; exact h⟩

theorem writeRoot_okS {Γ : Env} {fr : Frame} {g : Globals} {r : Root} {v : Val} {fr1 : Frame} {g1 : Globals}
    (hf : FrOKS Γ fr) (hg : MapOK g) (hv : Val.isPtr v = false) (hr : ∀ x, r = .loc x → Γ x = 0)
    (h : writeRoot fr g r v = .ok (fr1, g1)) : FrOKS Γ fr1 ∧ MapOK g1 ∧ DomLe Γ fr1 fr := by
  cases r with
  | loc n =>
    simp only [writeRoot, Except.ok.injEq, Prod.mk.injEq] at h
    obtain ⟨rfl, rfl⟩ := h
    have h0 := hr n rfl
    refine ⟨⟨hf.1.set n (by rw [h0]; exact hv), hf.2⟩, hg, ?_⟩
    intro x hx hs
    have hne : n ≠ x := by intro hh; subst hh; exact hx h0
    simpa [Map.get_set_ne _ _ _ _ hne] using hs
  | arg i =>
    simp only [writeRoot] at h
    by_cases hi : i < fr.args.length
    · rw [if_pos hi] at h
      simp only [Except.ok.injEq, Prod.mk.injEq] at h
      obtain ⟨rfl, rfl⟩ := h
      exact ⟨⟨hf.1, hf.2.set i hv⟩, hg, fun _ _ h => h⟩
    · rw [if_neg hi] at h; cases h
  | glob n =>
    simp only [writeRoot, Except.ok.injEq, Prod.mk.injEq] at h
    obtain ⟨rfl, rfl⟩ := h
    exact ⟨hf, hg.set n hv, fun _ _ h => h⟩

theorem writeLoc_okS {Γ : Env} {fr : Frame} {g : Globals} {x : String} {root root' v : Val} {p : List Key}
    {fr1 : Frame} {g1 : Globals}
    {d : Nat} (hf : FrOKS Γ fr) (hv : Tree d v) (hr : readRoot fr g (.loc x) = .ok root)
    (hlen : p.length + d = Γ x) (hs : setPath root p v = .ok root')
    (h : writeRoot fr g (.loc x) root' = .ok (fr1, g1)) : FrOKS Γ fr1 ∧ g1 = g ∧ DomLe Γ fr1 fr := by
  simp only [writeRoot, Except.ok.injEq, Prod.mk.injEq] at h
  obtain ⟨rfl, rfl⟩ := h
  have ht : Tree (p.length + d) root := by rw [hlen]; exact readRoot_tree hf hr
  have ht' := Tree.setPath p ht hv hs
  rw [hlen] at ht'
  refine ⟨⟨hf.1.set x ht', hf.2⟩, rfl, ?_⟩
  intro y _ hs'
  by_cases hxy : x = y
  · subst hxy
    rw [readRoot_loc] at hr
    simp [hr]
  · simpa [Map.get_set_ne _ _ _ _ hxy] using hs'

variable {cf : String → List Val → Globals → Res} {code : List Instr} {pc : Nat} {fr : Frame} {g : Globals}

theorem step_load_agg {dst : Nat} {ty : ITy} {sc : Scope} {var : VarKey} {root : Root} {v : Val}
    (hc : code[pc]? = some (.load dst ty sc var)) (hroot : rootOf sc var = .ok root)
    (hr : readRoot fr g root = .ok v) (ha : ty.isAggregate = true) (hv : isAggVal v = true) :
    stepI cf code pc fr g = .next (pc + 1) (setReg fr dst (.ptr root [])) g := by
  simp [stepI, hc, liftE, hroot, hr, ha, hv]

theorem step_loadArr {dst : Nat} {ty : ITy} {arr idx : Opd} {r : Root} {p : List Key} {i root c x : Val} {k : Nat}
    (hc : code[pc]? = some (.loadArr dst ty arr idx))
    (ha : evalOpd fr arr = .ok (.ptr r p)) (hi : evalOpd fr idx = .ok i) (hpi : Val.isPtr i = false)
    (hr : readRoot fr g r = .ok root) (hp : getPath root p = .ok c) (hk : indexOf c i = .ok k)
    (hx : getKey c (.idx k) = .ok x) :
    stepI cf code pc fr g =
      .next (pc + 1) (setReg fr dst (if ty.isAggregate && isAggVal x then .ptr r (p ++ [.idx k]) else x)) g := by
  simp only [stepI, hc, liftE, ha, evalVal_of_noPtr hi hpi, hr, hp, hk, hx, bind, Except.bind]
  split <;> rfl

theorem step_storeArr {arr idx src : Opd} {r : Root} {p : List Key} {i v root c root' : Val} {k : Nat}
    {fr' : Frame} {g' : Globals}
    (hc : code[pc]? = some (.storeArr arr idx src))
    (ha : evalOpd fr arr = .ok (.ptr r p)) (hi : evalOpd fr idx = .ok i) (hpi : Val.isPtr i = false)
    (hv : evalOpd fr src = .ok v) (hpv : Val.isPtr v = false)
    (hr : readRoot fr g r = .ok root) (hp : getPath root p = .ok c) (hk : indexOf c i = .ok k)
    (hs : setPath root (p ++ [.idx k]) v = .ok root') (hw : writeRoot fr g r root' = .ok (fr', g')) :
    stepI cf code pc fr g = .next (pc + 1) fr' g' := by
  simp only [stepI, hc, liftE, ha, evalVal_of_noPtr hi hpi, hv]
  cases v with
  | ptr _ _ => cases hpv
  | _ => simp only [hr, hp, hk, hs, hw]

theorem step_loadMem {dst : Nat} {ty : ITy} {obj : Opd} {field : String} {r : Root} {p : List Key} {root c x : Val}
    (hc : code[pc]? = some (.loadMem dst ty obj field))
    (ha : evalOpd fr obj = .ok (.ptr r p))
    (hr : readRoot fr g r = .ok root) (hp : getPath root p = .ok c) (hx : getKey c (.fld field) = .ok x) :
    stepI cf code pc fr g =
      .next (pc + 1) (setReg fr dst (if ty.isAggregate && isAggVal x then .ptr r (p ++ [.fld field]) else x)) g := by
  simp only [stepI, hc, liftE, ha, hr, hp, hx, bind, Except.bind]
  split <;> rfl

theorem step_storeMem {obj src : Opd} {field : String} {r : Root} {p : List Key} {v root root' : Val}
    {fr' : Frame} {g' : Globals}
    (hc : code[pc]? = some (.storeMem obj field src))
    (ha : evalOpd fr obj = .ok (.ptr r p)) (hv : evalOpd fr src = .ok v) (hpv : Val.isPtr v = false)
    (hr : readRoot fr g r = .ok root)
    (hs : setPath root (p ++ [.fld field]) v = .ok root') (hw : writeRoot fr g r root' = .ok (fr', g')) :
    stepI cf code pc fr g = .next (pc + 1) fr' g' := by
  simp only [stepI, hc, liftE, ha, hv]
  cases v with
  | ptr _ _ => cases hpv
  | _ => simp only [hr, hs, hw]

end Stor
end Nsl
