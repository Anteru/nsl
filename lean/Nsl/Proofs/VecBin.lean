import Nsl.Proofs.VecShape
/-!
# The tail of a lowered binary node, one equation per accepted operator/type combination

A single `bin` instruction in six cases, whose VM meaning `binExec` is then `binSem` on the operand values; an unrolled
row loop closed by `construct` in three (`VecRows`).
-/
namespace Nsl
namespace Vec
open Core VM CoreSem Lower Sim

theorem one_bin (P : Program) {code : List Instr} {q k : Nat} {ρ : Map Nat Val} {fr : Frame} {g : Globals} {dst : Nat}
    {o : BinOp} {ty : ITy} {x y : Opd} {a b z : Val}
    (hc : code[q]? = some (.bin dst o ty x y)) (hx : evalOpd (vf ρ fr) x = .ok a) (hpa : Val.isPtr a = false)
    (hy : evalOpd (vf ρ fr) y = .ok b) (hpb : Val.isPtr b = false) (hz : binExec o ty a b = .ok z) (hk : k ≤ dst) :
    Run P code q [.bin dst o ty x y] k (ρ, fr, g) (Map.set ρ dst z, fr, g) :=
  Run.reg (step_bin (cf := callD P 0) (g := g) hc hx hpa hy hpb hz) hk

theorem scIsInt_row (s : Sc) (r c : Nat) : scIsInt (.vec s c) = scIsInt (.mat s r c) := by
  cases s <;> rfl

/-- The tail `t`, placed at `q`, runs to its end keeping the registers below `k2`, frame and globals, and leaves `z`
in its result operand. -/
def TailOK (P : Program) (code : List Instr) (q k2 : Nat) (ρ : Map Nat Val) (fr : Frame) (g : Globals) (z : Val)
    (t : List Instr × Opd × Nat) : Prop :=
  ∃ ρ', Run P code q t.1 k2 (ρ, fr, g) (ρ', fr, g) ∧ evalOpd (vf ρ' fr) t.2.1 = .ok z

theorem tail_single (P : Program) {code : List Instr} {q k2 : Nat} {ρ : Map Nat Val} {fr : Frame} {g : Globals}
    {o : BinOp} {ty : ITy} {x y : Opd} {a b z : Val}
    (hat : At code q [.bin k2 o ty x y]) (hx : evalOpd (vf ρ fr) x = .ok a) (hpa : Val.isPtr a = false)
    (hy : evalOpd (vf ρ fr) y = .ok b) (hpb : Val.isPtr b = false) (hz : binExec o ty a b = .ok z) :
    TailOK P code q k2 ρ fr g z ([.bin k2 o ty x y], .ref k2, k2 + 1) := by
  exact ⟨Map.set ρ k2 z, one_bin P hat.head hx hpa hy hpb hz (Nat.le_refl k2), evalOpd_vf_set ..⟩

def vsOp : BOp → BinOp
  | .div => .vDivS
  | _ => .vMulS

section
variable {op : BOp} {s1 s2 s3 : Sc} {n n1 n2 r k c d k2 : Nat} {x y vl vr : Opd}

theorem mkBin_vvv : mkBin d op (.vec s3 n) x (.vec s1 n1) y (.vec s2 n2) = .bin d (.v op.toSOp) (.vec s3 n) x y := by
  cases op <;> rfl

theorem mkBin_vs (hop : op = .mul ∨ op = .div) :
    mkBin d op (.vec s3 n) x (.vec s1 n1) y (.sc s2) = .bin d (vsOp op) (.vec s3 n) x y := by
  rcases hop with rfl | rfl <;> rfl

theorem mkBin_sv : mkBin d .mul (.vec s3 n) x (.sc s1) y (.vec s2 n2) = .bin d .vMulS (.vec s3 n) y x := rfl

theorem binExec_v (o : SOp) (ty : ITy) (xs ys : List Val) :
    binExec (.v o) ty (.list xs) (.list ys) = zipBin o (scIsInt ty) xs ys >>= fun zs => .ok (.list zs) := rfl

/-- The VM's vector ∘ scalar is `mapBinR` with the scalar on the right. -/
theorem binExec_vs (hop : op = .mul ∨ op = .div) (ty : ITy) (xs : List Val) (b : Val) :
    binExec (vsOp op) ty (.list xs) b = mapBinR op.toSOp (scIsInt ty) b xs >>= fun zs => .ok (.list zs) := by
  rcases hop with rfl | rfl <;> rfl

variable {a b : Val}

theorem binTail_sss : binTail op (.sc s3) (.sc s1) (.sc s2) vl vr k2 =
    ([.bin k2 (.s op.toSOp) (.sc s3) vl vr], .ref k2, k2 + 1) := rfl

theorem binExec_sss : binExec (.s op.toSOp) (.sc s3) a b = binSem op (.sc s3) (.sc s1) (.sc s2) a b := rfl

theorem binTail_vvv : binTail op (.vec s3 n) (.vec s1 n) (.vec s2 n) vl vr k2 =
    ([.bin k2 (.v op.toSOp) (.vec s3 n) vl vr], .ref k2, k2 + 1) :=
  congrArg (fun i => ([i], Opd.ref k2, k2 + 1)) mkBin_vvv

theorem binExec_vvv : binExec (.v op.toSOp) (.vec s3 n) a b = binSem op (.vec s3 n) (.vec s1 n) (.vec s2 n) a b := rfl

theorem binTail_vsv (hop : op = .mul ∨ op = .div) : binTail op (.vec s3 n) (.vec s1 n) (.sc s2) vl vr k2 =
    ([.bin k2 (vsOp op) (.vec s3 n) vl vr], .ref k2, k2 + 1) :=
  congrArg (fun i => ([i], Opd.ref k2, k2 + 1)) (mkBin_vs hop)

theorem binExec_vsv (hop : op = .mul ∨ op = .div) :
    binExec (vsOp op) (.vec s3 n) a b = binSem op (.vec s3 n) (.vec s1 n) (.sc s2) a b := by
  rcases hop with rfl | rfl <;> rfl

theorem binTail_svv : binTail .mul (.vec s3 n) (.sc s1) (.vec s2 n) vl vr k2 =
    ([.bin k2 .vMulS (.vec s3 n) vr vl], .ref k2, k2 + 1) := rfl

/-- `s * v` is emitted, and computed by `binSem`, as `v * s`. -/
theorem binExec_svv : binExec .vMulS (.vec s3 n) b a = binSem .mul (.vec s3 n) (.sc s1) (.vec s2 n) a b := rfl

theorem binTail_mmMul : binTail .mul (.mat s3 r c) (.mat s1 r k) (.mat s2 k c) vl vr k2 =
    ([.bin k2 .mMulM (.mat s3 r c) vl vr], .ref k2, k2 + 1) := rfl

theorem binExec_mmMul :
    binExec .mMulM (.mat s3 r c) a b = binSem .mul (.mat s3 r c) (.mat s1 r k) (.mat s2 k c) a b := rfl

theorem binTail_mv : binTail .mul (.vec s3 r) (.mat s1 r c) (.vec s2 c) vl vr k2 =
    ([.bin k2 .mMulV (.vec s3 r) vl vr], .ref k2, k2 + 1) := rfl

theorem binExec_mv : binExec .mMulV (.vec s3 r) a b = binSem .mul (.vec s3 r) (.mat s1 r c) (.vec s2 c) a b := rfl

/-- The tail of the row-wise cases: the code of the rows, then `construct` of the row registers. -/
def rowsTail (ty : ITy) (p : List Instr × List Opd × Nat) : List Instr × Opd × Nat :=
  (p.1 ++ [.construct p.2.2 ty p.2.1], .ref p.2.2, p.2.2 + 1)

theorem binTail_mmRow (hop : op ≠ .mul) : binTail op (.mat s3 r c) (.mat s1 r c) (.mat s2 r c) vl vr k2 =
    rowsTail (.mat s3 r c) (rowsMM op (.mat s1 r c) (.mat s2 r c) (.mat s3 r c) vl vr r k2) := by
  cases op <;> first | rfl | exact absurd rfl hop

theorem binTail_ms : binTail op (.mat s3 r c) (.mat s1 r c) (.sc s2) vl vr k2 =
    rowsTail (.mat s3 r c) (rowsMS op (.mat s1 r c) (.sc s2) (.mat s3 r c) vl vr r k2) := rfl

theorem binTail_sm : binTail op (.mat s3 r c) (.sc s1) (.mat s2 r c) vl vr k2 =
    rowsTail (.mat s3 r c) (rowsSM op (.sc s1) (.mat s2 r c) (.mat s3 r c) vl vr r k2) := rfl

end

end Vec
end Nsl
