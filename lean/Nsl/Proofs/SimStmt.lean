import Nsl.Proofs.SimRun
/-!
# The statement level of the simulation, for every core at once

The control-flow part of the simulation does not depend on which expressions a core accepts nor on what its
invariant says about values; `Disc` lists what it does depend on.
-/
namespace Nsl
namespace Sim
open Core VM CoreSem Lower

/-- One unfolding of a statement checker `S` over an expression checker `E`.  A `for` loop also has to accept the
same loop without its initialiser, because that is what the reference semantics runs from the second iteration on
(`forAfterBody`). -/
def StmtStep (E : Expr → Prop) (S : Bool → Stmt → Prop) (il : Bool) : Stmt → Prop
  | .skip => True
  | .decl _ _ none => True
  | .decl _ _ (some e) => E e
  | .expr e => E e
  | .seq a b => S il a ∧ S il b
  | .ite1 c t => E c ∧ S il t
  | .ite2 c t e => E c ∧ S il t ∧ S il e
  | .whileL c b => E c ∧ S true b
  | .doL b c => S true b ∧ E c
  | .forL i c n b =>
    S il i ∧ (∀ e, c = some e → E e) ∧ (∀ e, n = some e → E e) ∧ S true b ∧ S il (.forL .skip c n b)
  | .brk => il = true
  | .cont => il = true
  | .ret none => True
  | .ret (some e) => E e

/-- A core as the statement level sees it, inside one function body. -/
structure Disc where
  /-- accepted expressions -/
  E : Expr → Prop
  /-- accepted statements (`Bool`: inside a loop) -/
  S : Bool → Stmt → Prop
  /-- invariant of the source frame -/
  Fr : Frame → Prop
  /-- invariant of the globals -/
  G : Globals → Prop
  /-- what is known of the value of an accepted expression -/
  V : Expr → Val → Prop
  /-- what is known of a returned value -/
  R : Val → Prop
  noPtr {e : Expr} {v : Val} : V e v → Val.isPtr v = false
  step {il : Bool} {s : Stmt} : S il s → StmtStep E S il s
  decl {il : Bool} {x : String} {ty : ITy} {i : Option Expr} {fr : Frame} :
    S il (.decl x ty i) → Fr fr → Fr { fr with locals := Map.set fr.locals x (createInstance ty) }
  init {il : Bool} {x : String} {ty : ITy} {e : Expr} {a : Val} {fr : Frame} :
    S il (.decl x ty (some e)) → V e a → Fr fr → Fr { fr with locals := Map.set fr.locals x a }
  retNone {il : Bool} : S il (.ret none) → R .none
  retSome {il : Bool} {e : Expr} {v : Val} : S il (.ret (some e)) → V e v → R v

/-- The expression claim of a core, weakened to what statements need (the cores also prove which registers the run
leaves alone: `Run`). -/
def ESimW (M : Core.Module) (D : Disc) (n : Nat) : Prop :=
  ∀ {code : List Instr} {e : Expr} {fr : Frame} {g : Globals} {v : Val} {fr' : Frame} {g' : Globals},
    evalE M n e fr g = .val v fr' g' → D.E e → D.Fr fr → D.G g →
    ∀ {k : Nat} {c : List Instr} {o : Opd} {k' q : Nat} (ρ : Map Nat Val),
      lowerE e k = (c, o, k') → At code q c →
      ∃ ρ', Steps (lowerModule M) code (q, vf ρ fr, g) (q + c.length, vf ρ' fr', g') ∧
        evalOpd (vf ρ' fr') o = .ok v ∧ D.V e v ∧ D.Fr fr' ∧ D.G g'

/-- What a statement outcome means for the VM started in `c0`; `endPos` is the position after the fragment. -/
def Post (Fr : Frame → Prop) (G : Globals → Prop) (R : Val → Prop) (P : Program) (code : List Instr)
    (brk cont : Option Nat) (c0 : Cfg) (endPos : Nat) : SOut → Prop
  | .normal fr' g' => ∃ ρ', Steps P code c0 (endPos, vf ρ' fr', g') ∧ Fr fr' ∧ G g'
  | .brk fr' g' => ∃ b p ρ', brk = some b ∧ labelPos code b = some p ∧
      Steps P code c0 (p, vf ρ' fr', g') ∧ Fr fr' ∧ G g'
  | .cont fr' g' => ∃ b p ρ', cont = some b ∧ labelPos code b = some p ∧
      Steps P code c0 (p, vf ρ' fr', g') ∧ Fr fr' ∧ G g'
  | .ret v fr' g' => Returns P code c0 v g' fr'.args ∧ R v ∧ G g'
  | .fail _ => True

def SSim (M : Core.Module) (D : Disc) (n : Nat) : Prop :=
  ∀ {code : List Instr}, LabelsOK code →
  ∀ {s : Stmt} {fr : Frame} {g : Globals} {inLoop : Bool}, D.S inLoop s → D.Fr fr → D.G g →
  ∀ {brk cont : Option Nat} {k : Nat} {c : List Instr} {k' q e : Nat} (ρ : Map Nat Val),
    lowerS brk cont s k = (c, k') → Seg code q c e →
    (inLoop = true → ∃ b cn pb pc, brk = some b ∧ cont = some cn ∧ labelPos code b = some pb ∧ labelPos code cn = some pc) →
    Post D.Fr D.G D.R (lowerModule M) code brk cont (q, vf ρ fr, g) e (execS M n s fr g)

section
variable {P : Program} {code : List Instr}

theorem label_steps {l pc : Nat} (hc : code[pc]? = some (.label l)) (fr : Frame) (g : Globals) :
    Steps P code (pc, fr, g) (pc + 1, fr, g) :=
  Steps.one 0 (stepI_label (cf := callD P 0) hc)

theorem label_end {l p e : Nat} (h : Seg code p [.label l] e) (fr : Frame) (g : Globals) :
    Steps P code (p, fr, g) (e, fr, g) := by
  obtain rfl := h.end_one
  exact label_steps h.head fr g

theorem br_steps {l pc p : Nat} (hc : code[pc]? = some (.br l)) (hl : labelPos code l = some p)
    (fr : Frame) (g : Globals) : Steps P code (pc, fr, g) (p, fr, g) :=
  Steps.one 0 (step_br (cf := callD P 0) hc hl)

end

section Post
variable {Fr : Frame → Prop} {G : Globals → Prop} {R : Val → Prop} {P : Program} {code : List Instr}
  {brk cont : Option Nat}

def SOut.isNormal : SOut → Bool
  | .normal _ _ => true
  | _ => false

def SOut.isJump : SOut → Bool
  | .brk _ _ | .cont _ _ => true
  | _ => false

theorem Post.prepend {c0 c1 : Cfg} {e : Nat} {out : SOut} (hs : Steps P code c0 c1)
    (h : Post Fr G R P code brk cont c1 e out) : Post Fr G R P code brk cont c0 e out := by
  cases out with
  | normal fr' g' => obtain ⟨ρ', s, a, b⟩ := h; exact ⟨ρ', hs.trans s, a, b⟩
  | brk fr' g' => obtain ⟨b, p, ρ', h1, h2, s, h3, h4⟩ := h; exact ⟨b, p, ρ', h1, h2, hs.trans s, h3, h4⟩
  | cont fr' g' => obtain ⟨b, p, ρ', h1, h2, s, h3, h4⟩ := h; exact ⟨b, p, ρ', h1, h2, hs.trans s, h3, h4⟩
  | ret v fr' g' => exact ⟨Returns.of_steps hs h.1, h.2⟩
  | fail e => trivial

theorem Post.end_irrel {c0 : Cfg} {e e' : Nat} {out : SOut} (h : Post Fr G R P code brk cont c0 e out)
    (hn : SOut.isNormal out = false) : Post Fr G R P code brk cont c0 e' out := by
  cases out with
  | normal fr' g' => cases hn
  | _ => exact h

theorem Post.then_steps {c0 : Cfg} {e e' : Nat} {out : SOut} (h : Post Fr G R P code brk cont c0 e out)
    (hk : ∀ (fr : Frame) (g : Globals), Steps P code (e, fr, g) (e', fr, g)) :
    Post Fr G R P code brk cont c0 e' out := by
  cases out with
  | normal fr' g' => obtain ⟨ρ', s, a, b⟩ := h; exact ⟨ρ', s.trans (hk _ _), a, b⟩
  | _ => exact h

theorem Post.relabel {brk' cont' : Option Nat} {c0 : Cfg} {e : Nat} {out : SOut}
    (h : Post Fr G R P code brk cont c0 e out) (hn : SOut.isJump out = false) :
    Post Fr G R P code brk' cont' c0 e out := by
  cases out with
  | brk fr' g' => cases hn
  | cont fr' g' => cases hn
  | _ => exact h

/-- The body of a loop inside the loop: what follows a normal end of the body (`hnorm`), a `continue` (`hcont`), and how
the VM leaves the loop from the break label (`hbrk`). -/
theorem Post.loop {lb lc pb pc : Nat} {c0 : Cfg} {eb e : Nat} {next : Frame → Globals → SOut} {out : SOut}
    (h : Post Fr G R P code (some lb) (some lc) c0 eb out)
    (hb : labelPos code lb = some pb) (hc : labelPos code lc = some pc)
    (hnorm : ∀ ρ fr g, Fr fr → G g → Post Fr G R P code brk cont (eb, vf ρ fr, g) e (next fr g))
    (hcont : ∀ ρ fr g, Fr fr → G g → Post Fr G R P code brk cont (pc, vf ρ fr, g) e (next fr g))
    (hbrk : ∀ fr g, Steps P code (pb, fr, g) (e, fr, g)) :
    Post Fr G R P code brk cont c0 e (loopOut next out) := by
  cases out with
  | normal fr g => obtain ⟨ρ, s, hf, hg⟩ := h; exact Post.prepend s (hnorm ρ fr g hf hg)
  | cont fr g =>
    obtain ⟨b, p, ρ, h1, h2, s, hf, hg⟩ := h
    cases h1; cases hc.symm.trans h2
    exact Post.prepend s (hcont ρ fr g hf hg)
  | brk fr g =>
    obtain ⟨b, p, ρ, h1, h2, s, hf, hg⟩ := h
    cases h1; cases hb.symm.trans h2
    exact ⟨ρ, s.trans (hbrk _ _), hf, hg⟩
  | ret v fr g => exact (h.relabel rfl).end_irrel rfl
  | fail er => trivial

end Post

variable {M : Core.Module} {D : Disc} {n : Nat}

theorem optE_sim (ihE : ESimW M D n) {code : List Instr} {oe : Option Expr} {dflt : Val}
    {fr : Frame} {g : Globals} {v : Val} {fr' : Frame} {g' : Globals}
    (h : optEval M n oe dflt fr g = .val v fr' g')
    (hok : ∀ e, oe = some e → D.E e) (hf : D.Fr fr) (hg : D.G g)
    {k : Nat} {c : List Instr} {ov : Option Opd} {k' q : Nat} (ρ : Map Nat Val)
    (hl : lowerOptE oe k = (c, ov, k')) (hat : At code q c) :
    ∃ ρ', Steps (lowerModule M) code (q, vf ρ fr, g) (q + c.length, vf ρ' fr', g') ∧
      (match ov with
       | some o => evalOpd (vf ρ' fr') o = .ok v ∧ Val.isPtr v = false
       | none => v = dflt) ∧ D.Fr fr' ∧ D.G g' := by
  cases oe with
  | none =>
    cases h; cases hl
    exact ⟨ρ, Steps.refl _, rfl, hf, hg⟩
  | some e =>
    rcases hel : lowerE e k with ⟨c1, v1, k1⟩
    simp only [lowerOptE, hel, Prod.mk.injEq] at hl
    obtain ⟨rfl, rfl, rfl⟩ := hl
    obtain ⟨ρ1, s1, e1, p1, hf1, hg1⟩ := ihE h (hok e rfl) hf hg ρ hel hat
    exact ⟨ρ1, s1, ⟨e1, D.noPtr p1⟩, hf1, hg1⟩

/-- The reference semantics re-enters a `for` loop as the loop without its initialiser; so does the code. -/
theorem lowerS_for_skip {brk cont : Option Nat} {c next : Option Expr} {body : Stmt} {k0 : Nat} {cc : List Instr}
    {v : Option Opd} {k1 : Nat} {cb : List Instr} {k2 : Nat} {cn : List Instr} {vn : Option Opd} {k3 : Nat}
    (hc : lowerOptE c (k0 + 4) = (cc, v, k1)) (hb : lowerS (some (k0 + 3)) (some (k0 + 2)) body k1 = (cb, k2))
    (hn : lowerOptE next k2 = (cn, vn, k3)) :
    lowerS brk cont (.forL .skip c next body) k0 =
      (.label k0 :: (cc ++ (forBranch v (k0 + 1) (k0 + 3) :: .label (k0 + 1) :: (cb ++ (.label (k0 + 2) :: (cn ++
        [.br k0, .label (k0 + 3)]))))), k3) := by
  simp [lowerS, hc, hb, hn]

theorem ssim_succ (ihE : ESimW M D n) (ihS : SSim M D n) : SSim M D (n + 1) := by
  intro code hlab s fr g inLoop hok hf hg brk cont k c k' q e ρ hl hseg hloop
  have hst := D.step hok
  cases s with
  | skip =>
    cases hl
    obtain rfl := hseg.end_nil
    rw [execS_skip]
    exact ⟨ρ, Steps.refl _, hf, hg⟩
  | decl name ty init =>
    cases init with
    | none =>
      cases hl
      obtain rfl := hseg.end_one
      rw [execS_decl_none]
      obtain ⟨w, hstep⟩ := step_newVar_any (cf := callD (lowerModule M) 0) (fr := vf ρ fr) (g := g) hseg.head
      exact ⟨Map.set ρ k w, Steps.one 0 hstep, D.decl hok hf, hg⟩
    | some e =>
      have hoke : D.E e := hst
      rcases hel : lowerE e (k + 1) with ⟨c1, v1, k1⟩
      simp only [lowerS, hel, Prod.mk.injEq] at hl
      obtain ⟨rfl, rfl⟩ := hl
      simp only [List.cons_append, List.nil_append] at hseg
      have a_c1 := hseg.tail
      have a_st := a_c1.right
      obtain rfl := a_st.end_one
      obtain ⟨w, hstep⟩ := step_newVar_any (cf := callD (lowerModule M) 0) (fr := vf ρ fr) (g := g) hseg.head
      cases h1 : evalE M n e { fr with locals := Map.set fr.locals name (createInstance ty) } g with
      | fail er => rw [execS_decl_fail h1]; trivial
      | val a fr1 g1 =>
        obtain ⟨ρ1, s1, e1, p1, hf1, hg1⟩ :=
          ihE h1 hoke (D.decl hok hf) hg (Map.set ρ k w) hel a_c1.left
        rw [execS_decl_val h1 (D.noPtr p1)]
        have hw : writeRoot fr1 g1 (.loc name) a = .ok ({ fr1 with locals := Map.set fr1.locals name a }, g1) := rfl
        have hst := step_store (cf := callD (lowerModule M) 0) a_st.head (root := .loc name) rfl e1 (D.noPtr p1)
          (writeRoot_vf (ρ := ρ1) hw)
        exact ⟨ρ1, ((Steps.one 0 hstep).trans s1).trans (Steps.one 0 hst), D.init hok p1 hf1, hg1⟩
  | expr e =>
    have hoke : D.E e := hst
    rcases hel : lowerE e k with ⟨c1, v1, k1⟩
    simp only [lowerS, hel, Prod.mk.injEq] at hl
    obtain ⟨rfl, rfl⟩ := hl
    obtain rfl := hseg.2
    rw [execS_expr]
    cases h1 : evalE M n e fr g with
    | fail er => trivial
    | val a fr1 g1 =>
      obtain ⟨ρ1, s1, _, _, hf1, hg1⟩ := ihE h1 hoke hf hg ρ hel hseg.1
      exact ⟨ρ1, s1, hf1, hg1⟩
  | seq a b =>
    obtain ⟨hoka, hokb⟩ : D.S inLoop a ∧ D.S inLoop b := hst
    rcases ha : lowerS brk cont a k with ⟨ca, k1⟩
    rcases hb : lowerS brk cont b k1 with ⟨cb, k2⟩
    simp only [lowerS, ha, hb, Prod.mk.injEq] at hl
    obtain ⟨rfl, rfl⟩ := hl
    have iha := ihS hlab hoka hf hg ρ ha hseg.init hloop
    rw [execS_seq]
    cases hx : execS M n a fr g with
    | normal fr1 g1 =>
      rw [hx] at iha
      obtain ⟨ρ1, s1, hf1, hg1⟩ := iha
      exact Post.prepend s1 (ihS hlab hokb hf1 hg1 ρ1 hb hseg.right hloop)
    | brk fr1 g1 => rw [hx] at iha; exact iha.end_irrel rfl
    | cont fr1 g1 => rw [hx] at iha; exact iha.end_irrel rfl
    | ret v fr1 g1 => rw [hx] at iha; exact iha.end_irrel rfl
    | fail er => trivial
  | ite1 cnd t =>
    obtain ⟨hokc, hokt⟩ : D.E cnd ∧ D.S inLoop t := hst
    rcases hc : lowerE cnd k with ⟨cc, v, k1⟩
    rcases ht : lowerS brk cont t (k1 + 2) with ⟨ct, k2⟩
    simp only [lowerS, hc, ht, Prod.mk.injEq] at hl
    obtain ⟨rfl, rfl⟩ := hl
    simp only [List.append_assoc, List.cons_append, List.nil_append] at hseg
    have a_brc := hseg.right
    have a_lT := a_brc.tail
    have a_ct := a_lT.tail
    have a_end := a_ct.right
    rw [execS_ite1]
    cases h1 : evalE M n cnd fr g with
    | fail er => trivial
    | val a fr1 g1 =>
      obtain ⟨ρ1, s1, e1, p1, hf1, hg1⟩ := ihE h1 hokc hf hg ρ hc hseg.left
      by_cases htr : a.truthy = true
      · simp only [if_pos htr]
        have st1 := step_brc_true (cf := callD (lowerModule M) 0) (g := g1) a_brc.head e1 (D.noPtr p1) htr
          (hlab.at a_lT.1)
        have iht := ihS hlab hokt hf1 hg1 ρ1 ht a_ct.init hloop
        have pre := (s1.trans (Steps.one 0 st1)).trans (label_steps a_lT.head _ _)
        exact Post.prepend pre (iht.then_steps (fun fr g => label_end a_end fr g))
      · simp only [if_neg htr]
        have st1 := step_brc_false (cf := callD (lowerModule M) 0) (g := g1) a_brc.head e1 (D.noPtr p1)
          (Bool.eq_false_iff.2 htr) (hlab.at a_end.1)
        exact ⟨ρ1, (s1.trans (Steps.one 0 st1)).trans (label_end a_end _ _), hf1, hg1⟩
  | ite2 cnd t el =>
    obtain ⟨hokc, hokt, hoke⟩ : D.E cnd ∧ D.S inLoop t ∧ D.S inLoop el := hst
    rcases hc : lowerE cnd k with ⟨cc, v, k1⟩
    rcases ht : lowerS brk cont t (k1 + 3) with ⟨ct, k2⟩
    rcases hee : lowerS brk cont el k2 with ⟨ce, k3⟩
    simp only [lowerS, hc, ht, hee, Prod.mk.injEq] at hl
    obtain ⟨rfl, rfl⟩ := hl
    simp only [List.append_assoc, List.cons_append, List.nil_append] at hseg
    have a_brc := hseg.right
    have a_lT := a_brc.tail
    have a_ct := a_lT.tail
    have a_br := a_ct.right
    have a_lF := a_br.tail
    have a_ce := a_lF.tail
    have a_end := a_ce.right
    rw [execS_ite2]
    cases h1 : evalE M n cnd fr g with
    | fail er => trivial
    | val a fr1 g1 =>
      obtain ⟨ρ1, s1, e1, p1, hf1, hg1⟩ := ihE h1 hokc hf hg ρ hc hseg.left
      by_cases htr : a.truthy = true
      · simp only [if_pos htr]
        have st1 := step_brc_true (cf := callD (lowerModule M) 0) (g := g1) a_brc.head e1 (D.noPtr p1) htr
          (hlab.at a_lT.1)
        have iht := ihS hlab hokt hf1 hg1 ρ1 ht a_ct.init hloop
        have pre := (s1.trans (Steps.one 0 st1)).trans (label_steps a_lT.head _ _)
        exact Post.prepend pre (iht.then_steps (fun fr g =>
          (br_steps a_br.head (hlab.at a_end.1) fr g).trans (label_end a_end fr g)))
      · simp only [if_neg htr]
        have st1 := step_brc_false (cf := callD (lowerModule M) 0) (g := g1) a_brc.head e1 (D.noPtr p1)
          (Bool.eq_false_iff.2 htr) (hlab.at a_lF.1)
        have ihe := ihS hlab hoke hf1 hg1 ρ1 hee a_ce.init hloop
        have pre := (s1.trans (Steps.one 0 st1)).trans (label_steps a_lF.head _ _)
        exact Post.prepend pre (ihe.then_steps (fun fr g => label_end a_end fr g))
  | whileL cnd body =>
    obtain ⟨hokc, hokb⟩ : D.E cnd ∧ D.S true body := hst
    have hl0 := hl
    have hseg0 := hseg
    rcases hc : lowerE cnd (k + 3) with ⟨cc, v, k1⟩
    rcases hb : lowerS (some (k + 2)) (some k) body k1 with ⟨cb, k2⟩
    simp only [lowerS, hc, hb, Prod.mk.injEq] at hl
    obtain ⟨rfl, rfl⟩ := hl
    simp only [List.append_assoc, List.cons_append, List.nil_append] at hseg
    have a_cc := hseg.tail
    have a_brc := a_cc.right
    have a_lB := a_brc.tail
    have a_cb := a_lB.tail
    have a_br := a_cb.right
    have a_end := a_br.tail
    have l_start : labelPos code k = some q := hlab.at hseg.1
    have l_body := hlab.at a_lB.1
    have l_end := hlab.at a_end.1
    -- the next iteration is the whole statement again
    have again : ∀ ρ2 fr2 g2, D.Fr fr2 → D.G g2 → Post D.Fr D.G D.R (lowerModule M) code brk cont (q, vf ρ2 fr2, g2) e
        (execS M n (.whileL cnd body) fr2 g2) :=
      fun ρ2 fr2 g2 hf2 hg2 => ihS hlab hok hf2 hg2 ρ2 hl0 hseg0 hloop
    rw [execS_while]
    cases h1 : evalE M n cnd fr g with
    | fail er => trivial
    | val a fr1 g1 =>
      obtain ⟨ρ1, s1, e1, p1, hf1, hg1⟩ := ihE h1 hokc hf hg ρ hc a_cc.left
      have s0 := (label_steps (P := lowerModule M) hseg.head (vf ρ fr) g).trans s1
      by_cases htr : a.truthy = true
      · simp only [if_pos htr]
        have st1 := step_brc_true (cf := callD (lowerModule M) 0) (g := g1) a_brc.head e1 (D.noPtr p1) htr l_body
        have pre := (s0.trans (Steps.one 0 st1)).trans (label_steps a_lB.head _ _)
        have ihb := ihS hlab hokb hf1 hg1 ρ1 hb a_cb.init (fun _ => ⟨k + 2, k, _, _, rfl, rfl, l_end, l_start⟩)
        -- after the body: jump back to the test; `continue` is already there
        exact Post.prepend pre (ihb.loop l_end l_start
          (fun ρ2 fr2 g2 hf2 hg2 => Post.prepend (br_steps a_br.head l_start _ _) (again ρ2 fr2 g2 hf2 hg2))
          again (label_end a_end))
      · simp only [if_neg htr]
        have st1 := step_brc_false (cf := callD (lowerModule M) 0) (g := g1) a_brc.head e1 (D.noPtr p1)
          (Bool.eq_false_iff.2 htr) l_end
        exact ⟨ρ1, (s0.trans (Steps.one 0 st1)).trans (label_end a_end _ _), hf1, hg1⟩
  | doL body cnd =>
    obtain ⟨hokb, hokc⟩ : D.S true body ∧ D.E cnd := hst
    have hl0 := hl
    have hseg0 := hseg
    rcases hb : lowerS (some (k + 2)) (some (k + 1)) body (k + 3) with ⟨cb, k1⟩
    rcases hc : lowerE cnd k1 with ⟨cc, v, k2⟩
    simp only [lowerS, hc, hb, Prod.mk.injEq] at hl
    obtain ⟨rfl, rfl⟩ := hl
    simp only [List.append_assoc, List.cons_append, List.nil_append] at hseg
    have a_cb := hseg.tail
    have a_lC := a_cb.right
    have a_cc := a_lC.tail
    have a_brc := a_cc.right
    have a_end := a_brc.tail
    have l_start : labelPos code k = some q := hlab.at hseg.1
    have l_cond := hlab.at a_lC.1
    have l_end := hlab.at a_end.1
    have pre := label_steps (P := lowerModule M) hseg.head (vf ρ fr) g
    have ihb := ihS hlab hokb hf hg ρ hb a_cb.init (fun _ => ⟨k + 2, k + 1, _, _, rfl, rfl, l_end, l_cond⟩)
    -- from the test label on; the body ends there, and `continue` jumps there
    have after : ∀ (ρ1 : Map Nat Val) (fr1 : Frame) (g1 : Globals), D.Fr fr1 → D.G g1 →
        Post D.Fr D.G D.R (lowerModule M) code brk cont (q + 1 + cb.length, vf ρ1 fr1, g1) e
          (doAfterBody M n body cnd fr1 g1) := by
      intro ρ1 fr1 g1 hf1 hg1
      unfold doAfterBody
      cases h1 : evalE M n cnd fr1 g1 with
      | fail er => trivial
      | val a fr2 g2 =>
        obtain ⟨ρ2, s2, e2, p2, hf2, hg2⟩ := ihE h1 hokc hf1 hg1 ρ1 hc a_cc.left
        have s0 := (label_steps (P := lowerModule M) a_lC.head (vf ρ1 fr1) g1).trans s2
        by_cases htr : a.truthy = true
        · simp only [if_pos htr]
          have st1 := step_brc_true (cf := callD (lowerModule M) 0) (g := g2) a_brc.head e2 (D.noPtr p2) htr l_start
          exact Post.prepend (s0.trans (Steps.one 0 st1)) (ihS hlab hok hf2 hg2 ρ2 hl0 hseg0 hloop)
        · simp only [if_neg htr]
          have st1 := step_brc_false (cf := callD (lowerModule M) 0) (g := g2) a_brc.head e2 (D.noPtr p2)
            (Bool.eq_false_iff.2 htr) l_end
          exact ⟨ρ2, (s0.trans (Steps.one 0 st1)).trans (label_end a_end _ _), hf2, hg2⟩
    rw [execS_do]
    exact Post.prepend pre (ihb.loop l_end l_cond after after (label_end a_end))
  | forL init cnd next body =>
    obtain ⟨hoki, hokc, hokn, hokb, hokw⟩ := hst
    rcases hi : lowerS brk cont init k with ⟨ci, k0⟩
    rcases hc : lowerOptE cnd (k0 + 4) with ⟨cc, v, k1⟩
    rcases hb : lowerS (some (k0 + 3)) (some (k0 + 2)) body k1 with ⟨cb, k2⟩
    rcases hn : lowerOptE next k2 with ⟨cn, vn, k3⟩
    simp only [lowerS, hi, hc, hb, hn, Prod.mk.injEq] at hl
    obtain ⟨rfl, rfl⟩ := hl
    simp only [List.append_assoc, List.cons_append, List.nil_append] at hseg
    have a_rest := hseg.right
    have a_cc := a_rest.tail
    have a_br := a_cc.right
    have a_lB := a_br.tail
    have a_cb := a_lB.tail
    have a_lI := a_cb.right
    have a_cn := a_lI.tail
    have a_back := a_cn.right
    have a_end := a_back.tail
    have l_cond := hlab.at a_rest.1
    have l_body := hlab.at a_lB.1
    have l_incr := hlab.at a_lI.1
    have l_end := hlab.at a_end.1
    have ihi := ihS hlab hoki hf hg ρ hi hseg.init hloop
    -- after the body: increment, jump back, and the rest is the loop without its initialiser
    have afterBody : ∀ (ρ2 : Map Nat Val) (fr2 : Frame) (g2 : Globals), D.Fr fr2 → D.G g2 →
        Post D.Fr D.G D.R (lowerModule M) code brk cont
          (q + ci.length + 1 + cc.length + 1 + 1 + cb.length, vf ρ2 fr2, g2) e
          (forAfterBody M n cnd next body fr2 g2) := by
      intro ρ2 fr2 g2 hf2 hg2
      unfold forAfterBody
      cases h3 : optEval M n next .none fr2 g2 with
      | fail er => trivial
      | val w fr3 g3 =>
        obtain ⟨ρ3, s3, _, hf3, hg3⟩ := optE_sim ihE h3 hokn hf2 hg2 ρ2 hn a_cn.left
        have back := br_steps (P := lowerModule M) a_back.head l_cond (vf ρ3 fr3) g3
        exact Post.prepend (((label_steps a_lI.head _ _).trans s3).trans back)
          (ihS hlab hokw hf3 hg3 ρ3 (lowerS_for_skip hc hb hn) a_rest hloop)
    -- from the test label on
    have loop : ∀ (ρ0 : Map Nat Val) (fr0 : Frame) (g0 : Globals), D.Fr fr0 → D.G g0 →
        Post D.Fr D.G D.R (lowerModule M) code brk cont (q + ci.length, vf ρ0 fr0, g0) e
          (forLoop M n cnd next body fr0 g0) := by
      intro ρ0 fr0 g0 hf0 hg0
      unfold forLoop
      cases h1 : optEval M n cnd (.int 1) fr0 g0 with
      | fail er => trivial
      | val a fr1 g1 =>
        obtain ⟨ρ1, s1, hv, hf1, hg1⟩ := optE_sim ihE h1 hokc hf0 hg0 ρ0 hc a_cc.left
        have pre1 := (label_steps (P := lowerModule M) a_rest.head (vf ρ0 fr0) g0).trans s1
        by_cases htr : a.truthy = true
        · simp only [if_pos htr]
          have stb : Steps (lowerModule M) code (q + ci.length + 1 + cc.length, vf ρ1 fr1, g1)
              (q + ci.length + 1 + cc.length + 1, vf ρ1 fr1, g1) := by
            cases v with
            | none => exact br_steps a_br.head l_body _ _
            | some p =>
              exact Steps.one 0 (step_brc_true (cf := callD (lowerModule M) 0) a_br.head hv.1 hv.2 htr l_body)
          have pre := (pre1.trans stb).trans (label_steps a_lB.head _ _)
          have ihb := ihS hlab hokb hf1 hg1 ρ1 hb a_cb.init (fun _ => ⟨k0 + 3, k0 + 2, _, _, rfl, rfl, l_end, l_incr⟩)
          exact Post.prepend pre (ihb.loop l_end l_incr afterBody afterBody (label_end a_end))
        · simp only [if_neg htr]
          cases v with
          | none =>
            -- without a condition the value is the constant 1
            subst hv
            exact absurd rfl htr
          | some p =>
            have st1 := step_brc_false (cf := callD (lowerModule M) 0) (g := g1) a_br.head hv.1 hv.2
              (Bool.eq_false_iff.2 htr) l_end
            exact ⟨ρ1, (pre1.trans (Steps.one 0 st1)).trans (label_end a_end _ _), hf1, hg1⟩
    rw [execS_for]
    cases hx : execS M n init fr g with
    | normal fr0 g0 =>
      rw [hx] at ihi
      obtain ⟨ρ0, s0, hf0, hg0⟩ := ihi
      exact Post.prepend s0 (loop ρ0 fr0 g0 hf0 hg0)
    | brk fr1 g1 => rw [hx] at ihi; exact ihi.end_irrel rfl
    | cont fr1 g1 => rw [hx] at ihi; exact ihi.end_irrel rfl
    | ret w fr1 g1 => rw [hx] at ihi; exact ihi.end_irrel rfl
    | fail er => trivial
  | brk =>
    obtain ⟨b, cn, pb, pc, rfl, rfl, hpb, hpc⟩ := hloop hst
    cases hl
    rw [execS_brk]
    exact ⟨b, pb, ρ, rfl, hpb, br_steps (l := b) hseg.head hpb _ _, hf, hg⟩
  | cont =>
    obtain ⟨b, cn, pb, pc, rfl, rfl, hpb, hpc⟩ := hloop hst
    cases hl
    rw [execS_cont]
    exact ⟨cn, pc, ρ, rfl, hpc, br_steps (l := cn) hseg.head hpc _ _, hf, hg⟩
  | ret oe =>
    cases oe with
    | none =>
      cases hl
      rw [execS_ret_none]
      exact ⟨⟨q, vf ρ fr, g, 0, Steps.refl _, stepI_ret_none hseg.head⟩, D.retNone hok, hg⟩
    | some e =>
      have hoke : D.E e := hst
      rcases hel : lowerE e k with ⟨c1, v1, k1⟩
      simp only [lowerS, hel, Prod.mk.injEq] at hl
      obtain ⟨rfl, rfl⟩ := hl
      cases h1 : evalE M n e fr g with
      | fail er => rw [execS_ret_fail h1]; trivial
      | val a fr1 g1 =>
        obtain ⟨ρ1, s1, e1, p1, hf1, hg1⟩ := ihE h1 hoke hf hg ρ hel hseg.left
        rw [execS_ret_val h1 (D.noPtr p1)]
        have hret := step_ret_some (cf := callD (lowerModule M) 0) (g := g1) hseg.right.head e1 (D.noPtr p1)
        exact ⟨⟨_, _, _, 0, s1, hret⟩, D.retSome hok p1, hg1⟩

/-! `SPost` is `Post FrOK MapOK (· is no alias)` written out, and `SPost.relabel` is `Post.relabel` for it. -/

section
variable {P : Program} {code : List Instr} {brk cont : Option Nat}

def SPost (P : Program) (code : List Instr) (brk cont : Option Nat) (c0 : Cfg) (endPos : Nat) : SOut → Prop
  | .normal fr' g' => ∃ ρ', Steps P code c0 (endPos, vf ρ' fr', g') ∧ FrOK fr' ∧ MapOK g'
  | .brk fr' g' => ∃ b p ρ', brk = some b ∧ labelPos code b = some p ∧
      Steps P code c0 (p, vf ρ' fr', g') ∧ FrOK fr' ∧ MapOK g'
  | .cont fr' g' => ∃ b p ρ', cont = some b ∧ labelPos code b = some p ∧
      Steps P code c0 (p, vf ρ' fr', g') ∧ FrOK fr' ∧ MapOK g'
  | .ret v fr' g' => Returns P code c0 v g' fr'.args ∧ Val.isPtr v = false ∧ MapOK g'
  | .fail _ => True

theorem SPost.relabel {brk' cont' : Option Nat} {c0 : Cfg} {e : Nat} {out : SOut}
    (h : SPost P code brk cont c0 e out) (hn : match out with | .brk _ _ => False | .cont _ _ => False | _ => True) :
    SPost P code brk' cont' c0 e out := by
  cases out with
  | brk fr' g' => cases hn
  | cont fr' g' => cases hn
  | _ => exact h

end

end Sim
end Nsl
