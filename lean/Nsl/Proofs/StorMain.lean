import Nsl.Proofs.StorStmt
/-!
# Storage core: the induction on the fuel, and `ScalarCore ⊆ StorageCore`

`sim_allS` is `Sim.sim_main` at `mdisc M`.  The step for expressions uses the claims at every smaller fuel: an
element access at fuel `n + 1` unfolds `evalPlace` at fuel `n` and its sub-evaluations at fuel `n - 1`, a store at
fuel `n + 1` reaches fuel `n - 2`.
-/
namespace Nsl
namespace Stor
open Core VM CoreSem Lower Sim

def AllS (M : Core.Module) (n : Nat) : Prop := ESimS M n ∧ ASimS M n ∧ PSimS M n

theorem sim_allS (M : Core.Module) (hM : StorageCore M) :
    ∀ n, AllS M n ∧ (∀ f : FnDef, SSim M (disc (envOf f.body)) n) ∧ CSim (mdisc M) n := by
  refine sim_main (mdisc M) hM (AllS M) ⟨?_, ?_, ?_⟩ (fun _ f h => ESimS.toW h.1 (envOf f.body)) ?_
  · intro code Γ e fr g v fr' g' h; rw [evalE_zero] at h; cases h
  · intro code Γ as fr g vs fr' g' h; rw [evalArgs_zero] at h; cases h
  · intro code Γ e fr g r p fr' g' d h; rw [evalPlace_zero] at h; cases h
  · intro n ih hC
    obtain ⟨ihE, ihA, ihP⟩ := ih n (Nat.le_refl n)
    exact ⟨esim_succS M n (fun m hm => ⟨(ih m hm).1, (ih m hm).2.2⟩) ihA hC, asim_succS M n ihE ihA,
      psim_succ M n ihE ihP⟩

theorem invoke_correct {M : Core.Module} (hM : StorageCore M) {fuel : Nat} {name : String} {args : List Val}
    {g : Globals} {v : Val} {g' : Globals} {as : List Val}
    (href : CoreSem.invoke M fuel name args g = .done v g' as) (hargs : ListOK args) (hg : MapOK g) :
    (∃ d, VM.invoke (lowerModule M) d name args g = .done v g' as) ∧ Val.isPtr v = false ∧ MapOK g' := by
  obtain ⟨d, hd, hv, hg'⟩ := (sim_allS M hM fuel).2.2 href hargs hg
  exact ⟨⟨d, by rw [invoke_eq_callD]; exact hd⟩, hv, hg'⟩

theorem rank_scalar {ty : ITy} (h : ty.isScalar = true) : rank ty = 0 := by
  obtain ⟨s, rfl⟩ := scalar_inv h
  rfl

section Subsume
variable (Γ : Env) (hΓ : ∀ x, Γ x = 0)
include hΓ

theorem keyOK_varOKS {sc : Scope} {key : VarKey} (h : keyOK sc key = true) : varOKS Γ sc key = true := by
  cases sc <;> cases key <;> first | exact h | exact beq_iff_eq.2 (hΓ _)

theorem okVar_okES {x : Expr} (h : okVar x = true) : isLhs x = true ∧ okES Γ x = true := by
  obtain ⟨sc, key, ty, rfl, hty, hkey⟩ := okVar_inv h
  exact ⟨rfl, by simp only [okES, hty, keyOK_varOKS Γ hΓ hkey, Bool.and_self]⟩

-- `hΓ` reaches `okArgs_okArgsS` through its mutual partner only, which the linter does not see
set_option linter.unusedSectionVars false in
mutual
  theorem okE_okES : ∀ (e : Expr), okE e = true → okES Γ e = true
    | .litI _, _ => rfl
    | .litF _, _ => rfl
    | .var sc key ty, h => by
      simp only [okE, Bool.and_eq_true] at h
      simp only [okES, h.1, keyOK_varOKS Γ hΓ h.2, Bool.and_self]
    | .bin op ty l r, h => by
      simp only [okE, Bool.and_eq_true] at h
      obtain ⟨⟨⟨⟨h1, h2⟩, h3⟩, h4⟩, h5⟩ := h
      simp only [okES, h1, h2, h3, okE_okES l h4, okE_okES r h5, Bool.and_self]
    | .cast ty e, h => by
      simp only [okE, Bool.and_eq_true] at h
      simp only [okES, h.1, okE_okES e h.2, Bool.and_self]
    | .assign lhs rhs, h => by
      simp only [okE, Bool.and_eq_true] at h
      obtain ⟨h1, h2⟩ := okVar_okES Γ hΓ h.1
      simp only [okES, h1, h2, okE_okES rhs h.2, Bool.and_self]
    | .affix _ _ x, h => by
      obtain ⟨h1, h2⟩ := okVar_okES Γ hΓ h
      simp only [okES, h1, h2, Bool.and_self]
    | .call _ _ args, h => okArgs_okArgsS args h
    | .index _ _ _ _, h => nomatch h
    | .member _ _ _, h => nomatch h
    | .swizzle _ _ _, h => nomatch h
    | .construct _ _, h => nomatch h
  theorem okArgs_okArgsS : ∀ (as : Args), okArgs as = true → okArgsS Γ as = true
    | .nil, _ => rfl
    | .cons e rest, h => by
      simp only [okArgs, Bool.and_eq_true] at h
      simp only [okArgsS, okE_okES e h.1, okArgs_okArgsS rest h.2, Bool.and_self]
end

theorem okOptE_okOptES : ∀ (oe : Option Expr), okOptE oe = true → okOptES Γ oe = true
  | none, _ => rfl
  | some e, h => okE_okES Γ hΓ e h

theorem okS_okSS : ∀ (s : Stmt) (il : Bool), okS il s = true → okSS Γ il s = true
  | .skip, _, _ => rfl
  | .decl x ty none, _, h => by
    simp only [okSS, hΓ x, rank_scalar h, beq_self_eq_true]
  | .decl x ty (some e), _, h => by
    simp only [okS, Bool.and_eq_true] at h
    simp only [okSS, hΓ x, h.1, okE_okES Γ hΓ e h.2, beq_self_eq_true, Bool.and_self]
  | .expr e, _, h => okE_okES Γ hΓ e h
  | .seq a b, il, h => by
    simp only [okS, Bool.and_eq_true] at h
    simp only [okSS, okS_okSS a il h.1, okS_okSS b il h.2, Bool.and_self]
  | .ite1 c t, il, h => by
    simp only [okS, Bool.and_eq_true] at h
    simp only [okSS, okE_okES Γ hΓ c h.1, okS_okSS t il h.2, Bool.and_self]
  | .ite2 c t e, il, h => by
    simp only [okS, Bool.and_eq_true] at h
    simp only [okSS, okE_okES Γ hΓ c h.1.1, okS_okSS t il h.1.2, okS_okSS e il h.2, Bool.and_self]
  | .whileL c body, il, h => by
    simp only [okS, Bool.and_eq_true] at h
    simp only [okSS, okE_okES Γ hΓ c h.1, okS_okSS body true h.2, Bool.and_self]
  | .doL body c, il, h => by
    simp only [okS, Bool.and_eq_true] at h
    simp only [okSS, okE_okES Γ hΓ c h.2, okS_okSS body true h.1, Bool.and_self]
  | .forL init c next body, il, h => by
    simp only [okS, Bool.and_eq_true] at h
    obtain ⟨⟨⟨h1, h2⟩, h3⟩, h4⟩ := h
    simp only [okSS, okS_okSS init il h1, okOptE_okOptES Γ hΓ c h2, okOptE_okOptES Γ hΓ next h3, okS_okSS body true h4,
      Bool.and_self]
  | .brk, _, h => h
  | .cont, _, h => h
  | .ret none, _, _ => rfl
  | .ret (some e), _, h => okE_okES Γ hΓ e h

end Subsume

theorem declRanks_scalar : ∀ (s : Stmt) (il : Bool), okS il s = true → ∀ p ∈ declRanks s, p.2 = 0
  | .decl x ty i, _, h, p, hp => by
    have hty : ty.isScalar = true := by
      cases i with
      | none => exact h
      | some e => simp only [okS, Bool.and_eq_true] at h; exact h.1
    cases List.mem_singleton.1 hp
    exact rank_scalar hty
  | .seq a b, il, h, p, hp => by
    simp only [okS, Bool.and_eq_true] at h
    exact (List.mem_append.1 hp).elim (declRanks_scalar a il h.1 p) (declRanks_scalar b il h.2 p)
  | .ite1 c t, il, h, p, hp => by
    simp only [okS, Bool.and_eq_true] at h
    exact declRanks_scalar t il h.2 p hp
  | .ite2 c t e, il, h, p, hp => by
    simp only [okS, Bool.and_eq_true] at h
    exact (List.mem_append.1 hp).elim (declRanks_scalar t il h.1.2 p) (declRanks_scalar e il h.2 p)
  | .whileL c body, il, h, p, hp => by
    simp only [okS, Bool.and_eq_true] at h
    exact declRanks_scalar body true h.2 p hp
  | .doL body c, il, h, p, hp => by
    simp only [okS, Bool.and_eq_true] at h
    exact declRanks_scalar body true h.1 p hp
  | .forL init c next body, il, h, p, hp => by
    simp only [okS, Bool.and_eq_true] at h
    exact (List.mem_append.1 hp).elim (declRanks_scalar init il h.1.1.1 p) (declRanks_scalar body true h.2 p)
  | .skip, _, _, _, hp => nomatch hp
  | .expr _, _, _, _, hp => nomatch hp
  | .brk, _, _, _, hp => nomatch hp
  | .cont, _, _, _, hp => nomatch hp
  | .ret _, _, _, _, hp => nomatch hp

theorem getD_const {α : Type} {c : α} : ∀ (l : Map String α), (∀ p ∈ l, p.2 = c) → ∀ x, (Map.get l x).getD c = c
  | [], _, x => rfl
  | (y, r) :: rest, h, x => by
    simp only [Map.get]
    by_cases hy : y = x
    · rw [if_pos hy]; exact h (y, r) (List.mem_cons_self ..)
    · rw [if_neg hy]; exact getD_const rest (fun p hp => h p (List.mem_cons_of_mem _ hp)) x

theorem okFn_okFnS {f : FnDef} (h : okFn f = true) : okFnS f = true :=
  okS_okSS (envOf f.body) (getD_const _ (declRanks_scalar f.body false h)) f.body false h

end Stor
end Nsl
