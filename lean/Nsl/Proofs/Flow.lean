/-
  C11: visitor, loop-stack walk and `occs` follow one recursion in which `if`-`else` is a sequence
  (`S.ind'`); `targets` under a stack is `resolve`; `occs` is tied to tree paths by `occs_sub`.
-/
import Nsl.Model.Flow

namespace Nsl.Flow

open Spec

/-- Structural induction for the nested inductive `S` (the `induction` tactic does not support
nested inductives directly). -/
theorem S.ind {motive : S → Prop}
    (other : motive .other) (brk : motive .brk) (cont : motive .cont)
    (seq : ∀ a b, motive a → motive b → motive (.seq a b))
    (ite1 : ∀ t, motive t → motive (.ite t none))
    (ite2 : ∀ t e, motive t → motive e → motive (.ite t (some e)))
    (loop : ∀ k id b, motive b → motive (.loop k id b)) : ∀ s, motive s
  | .other => other
  | .brk => brk
  | .cont => cont
  | .seq a b => seq a b (S.ind other brk cont seq ite1 ite2 loop a) (S.ind other brk cont seq ite1 ite2 loop b)
  | .ite t none => ite1 t (S.ind other brk cont seq ite1 ite2 loop t)
  | .ite t (some e) =>
    ite2 t e (S.ind other brk cont seq ite1 ite2 loop t) (S.ind other brk cont seq ite1 ite2 loop e)
  | .loop k id b => loop k id b (S.ind other brk cont seq ite1 ite2 loop b)

/-- `validate`, `targets`, `targetsSt`, `occs` have the same equation for `if t else e` as for `t; e`. -/
theorem S.ind' {motive : S → Prop}
    (other : motive .other) (brk : motive .brk) (cont : motive .cont)
    (seq : ∀ a b, motive a → motive b → motive (.seq a b))
    (ite1 : ∀ t, motive t → motive (.ite t none))
    (ite2 : ∀ t e, motive (.seq t e) → motive (.ite t (some e)))
    (loop : ∀ k id b, motive b → motive (.loop k id b)) : ∀ s, motive s :=
  S.ind other brk cont seq ite1 (fun t e ht he => ite2 t e (seq t e ht he)) loop

theorem allInLoop_seq (a b : S) : AllInLoop (.seq a b) ↔ AllInLoop a ∧ AllInLoop b := by
  simp only [AllInLoop, occs, List.forall_mem_append]

theorem allInLoop_loop (k : LoopKind) (id : Nat) (b : S) : AllInLoop (.loop k id b) := by
  simp only [AllInLoop, occs, List.mem_map]
  rintro o ⟨o', _, rfl⟩
  exact List.cons_ne_nil _ _

/-- What `targets` computes under an arbitrary stack: the innermost loop of each occurrence, where
the loops already on the stack (outermost first = reversed) enclose everything in `s`. -/
def resolve (stk : List Nat) (s : S) : List (Bool × Nat) :=
  (occs s).filterMap fun o => (innermost (stk.reverse ++ o.2)).map fun l => (o.1, l)

theorem resolve_seq (stk : List Nat) (a b : S) :
    resolve stk (.seq a b) = resolve stk a ++ resolve stk b := by
  simp [resolve, occs, List.filterMap_append]

theorem innermost_stack (l : Nat) (r : List Nat) : innermost ((l :: r).reverse ++ []) = some l := by
  rw [List.append_nil, innermost, List.getLast?_reverse]; rfl

theorem resolve_loop (stk : List Nat) (k : LoopKind) (id : Nat) (b : S) :
    resolve stk (.loop k id b) = resolve (id :: stk) b := by
  have h : ∀ ls : List Nat, stk.reverse ++ id :: ls = (id :: stk).reverse ++ ls := fun ls => by
    rw [List.reverse_cons, List.append_assoc]; rfl
  simp only [resolve, occs, List.filterMap_map, Function.comp_def, h]

theorem targets_eq_resolve (s : S) :
    ∀ stk, validate stk.length s = true → targets stk s = some (resolve stk s) := by
  induction s using S.ind' with
  | other => intro stk _; rfl
  | brk =>
    intro stk h
    cases stk with
    | nil => cases h
    | cons l r => simp only [targets, resolve, occs, List.filterMap_cons, innermost_stack]; rfl
  | cont =>
    intro stk h
    cases stk with
    | nil => cases h
    | cons l r => simp only [targets, resolve, occs, List.filterMap_cons, innermost_stack]; rfl
  | seq a b iha ihb =>
    intro stk h
    rw [validate, Bool.and_eq_true] at h
    rw [targets, iha stk h.1, ihb stk h.2, resolve_seq]
  | ite1 t iht => exact iht
  | ite2 t e h => exact h
  | loop k id b ih =>
    intro stk h
    rw [targets, ih (id :: stk) h, resolve_loop]

theorem resolve_nil (s : S) : resolve [] s = occurrences s := by
  simp [resolve, occurrences]

theorem targetsSt_eq (s : S) (stk : List Nat) :
    targetsSt s stk = (targets stk s).map fun xs => (xs, stk) := by
  induction s using S.ind' generalizing stk with
  | other => rfl
  | brk => cases stk <;> rfl
  | cont => cases stk <;> rfl
  | seq a b iha ihb =>
    rw [targetsSt, targets, iha stk]
    cases targets stk a with
    | none => rfl
    | some xs =>
      simp only [Option.map_some, ihb stk]
      cases targets stk b <;> rfl
  | ite1 t iht => exact iht stk
  | ite2 t e h => exact h stk
  | loop k id b ih =>
    rw [targetsSt, targets, ih (id :: stk)]
    cases targets (id :: stk) b <;> rfl

/-- The statement `break` / `continue` for a flag. -/
def leafOf (b : Bool) : S := if b then .brk else .cont

theorem occs_leafOf (b : Bool) : occs (leafOf b) = [(b, [])] := by cases b <;> rfl

theorem occs_sub {s s' : S} {p : List Step} (h : sub s p = some s') :
    ∀ o ∈ occs s', (o.1, enclosing s p ++ o.2) ∈ occs s := by
  -- the cases follow the equations of `sub`
  fun_induction sub s p with
  | case1 s => cases h; intro o ho; rw [enclosing]; exact ho
  | case2 a b p ih => exact fun o ho => List.mem_append_left _ (ih h o ho)
  | case3 a b p ih => exact fun o ho => List.mem_append_right _ (ih h o ho)
  | case4 t e p ih =>
    intro o ho
    cases e with
    | none => exact ih h o ho
    | some e => exact List.mem_append_left _ (ih h o ho)
  | case5 t e p ih => exact fun o ho => List.mem_append_right _ (ih h o ho)
  | case6 k id b p ih => exact fun o ho => List.mem_map.2 ⟨_, ih h o ho, rfl⟩
  | case7 => cases h

theorem mem_occs_of_path (s : S) (p : List Step) (b : Bool) (h : sub s p = some (leafOf b)) :
    (b, enclosing s p) ∈ occs s := by
  have := occs_sub h (b, []) (by rw [occs_leafOf]; exact List.mem_singleton.2 rfl)
  rwa [List.append_nil] at this

theorem path_of_mem_occs (s : S) :
    ∀ o ∈ occs s, ∃ p, sub s p = some (leafOf o.1) ∧ enclosing s p = o.2 := by
  induction s using S.ind with
  | other => exact nofun
  | brk => intro o h; cases List.mem_singleton.1 h; exact ⟨[], rfl, rfl⟩
  | cont => intro o h; cases List.mem_singleton.1 h; exact ⟨[], rfl, rfl⟩
  | seq a b iha ihb =>
    intro o h
    rcases List.mem_append.1 h with h | h
    · obtain ⟨p, h1, h2⟩ := iha o h; exact ⟨.seqL :: p, h1, h2⟩
    · obtain ⟨p, h1, h2⟩ := ihb o h; exact ⟨.seqR :: p, h1, h2⟩
  | ite1 t iht => intro o h; obtain ⟨p, h1, h2⟩ := iht o h; exact ⟨.thenB :: p, h1, h2⟩
  | ite2 t e iht ihe =>
    intro o h
    rcases List.mem_append.1 h with h | h
    · obtain ⟨p, h1, h2⟩ := iht o h; exact ⟨.thenB :: p, h1, h2⟩
    · obtain ⟨p, h1, h2⟩ := ihe o h; exact ⟨.elseB :: p, h1, h2⟩
  | loop k id b ih =>
    intro o h
    obtain ⟨o', ho', rfl⟩ := List.mem_map.1 h
    obtain ⟨p, h1, h2⟩ := ih o' ho'
    exact ⟨.body :: p, h1, congrArg (id :: ·) h2⟩

theorem allInLoop_iff_leaf_paths (s : S) :
    AllInLoop s ↔ ∀ p b, sub s p = some (leafOf b) → enclosing s p ≠ [] := by
  constructor
  · intro h p b hp; exact h (b, enclosing s p) (mem_occs_of_path s p b hp)
  · intro h o ho
    obtain ⟨p, h1, h2⟩ := path_of_mem_occs s o ho
    rw [← h2]; exact h p o.1 h1

/-- Under `AllInLoop` the `filterMap` in `occurrences` drops nothing. -/
theorem occurrences_eq_map (s : S) (h : AllInLoop s) :
    occurrences s = (occs s).map fun o => (o.1, o.2.getLastD 0) := by
  unfold occurrences AllInLoop at *
  generalize occs s = l at h ⊢
  induction l with
  | nil => rfl
  | cons o l ih =>
    have ho : o.2 ≠ [] := h o (by simp)
    have ih' := ih (fun o' ho' => h o' (by simp [ho']))
    obtain ⟨b, ls⟩ := o
    cases ls with
    | nil => exact absurd rfl ho
    | cons x xs =>
      simp only [innermost] at ih' ⊢
      simp [List.getLast?_cons, ih']

/-! ### Sanity checks of the line protocol (evaluated, not proved) -/

#guard run "f s i s b o w e c b" = "accept b0,c1,b1"
#guard run "f d s b s w c c" = "accept b1,c2,c1"
#guard run "s w o b" = "reject none"
#guard run "e b f c" = "reject none"
#guard run "o" = "accept -"
#guard run "s o" = "error"
#guard run "o o" = "error"
#guard run "x" = "error"

end Nsl.Flow
