import Nsl.Proofs.LowerLocal
import Nsl.Model.StorageCore
/-!
# The access invariants of lowered code, and why they give `forwardOK`

`forwardOK` looks at a `store sc' var' _` DIRECTLY followed by a `load _ ty sc var` with `var' = var` and demands
`sc' = sc` and a non-aggregate `ty`.  The cast pass that runs first can delete instructions between a store and a load,
so adjacency in the lowered code is not the right invariant; instead two position-independent ones are used:

* `AccP V` – every load/store accesses a `(scope, key)` pair of `V = accS body`, and every load is non-aggregate;
* `AccPS Γ V` – for the storage core, where the root of an access chain `a[i]…` is loaded as an alias: a load of
  AGGREGATE type reads a local of positive rank (`Γ x ≠ 0`), and a store to a local writes a local of rank 0 (element
  writes are `storeArr`/`storeMem` through the alias, not `store`s).  The rank discipline gives every name ONE rank, so
  a store cannot be followed by an aggregate load of the same local.

Both survive `pass decide code` for any `decide`, and with `scopesAgree V` each gives `forwardOK`.  `scopesAgree` is
needed: the typed core resolves `x` to a local or a global, and both may occur in one function
(`Props/LowerOK.lean`, `LowerOKEx.shadow`).

`AccP` holds of ALL code under the decidable condition `valVarsS`: every `var` node carries a non-aggregate annotation
(vectors and matrices are fine).  The only `load` is the one of a `var` node; the only stores are those at the root
variable of a (nested) target and of an initialising declaration, and `accE` descends to that root.
-/
namespace Nsl
namespace Core


mutual
  /-- Every variable occurrence is annotated with a non-aggregate type (scalar, vector, matrix or void). -/
  def valVarsE : Expr → Bool
    | .litI _ => true
    | .litF _ => true
    | .var _ _ ty => !ty.isAggregate
    | .bin _ _ l r => valVarsE l && valVarsE r
    | .cast _ e => valVarsE e
    | .assign lhs rhs => valVarsE lhs && valVarsE rhs
    | .affix _ _ x => valVarsE x
    | .call _ _ args => valVarsArgs args
    | .index _ _ base idx => valVarsE base && valVarsE idx
    | .member _ base _ => valVarsE base
    | .swizzle _ base _ => valVarsE base
    | .construct _ args => valVarsArgs args
  def valVarsArgs : Args → Bool
    | .nil => true
    | .cons e rest => valVarsE e && valVarsArgs rest
end

def valVarsOptE : Option Expr → Bool
  | none => true
  | some e => valVarsE e

def valVarsS : Stmt → Bool
  | .skip => true
  | .decl _ _ none => true
  | .decl _ _ (some e) => valVarsE e
  | .expr e => valVarsE e
  | .seq a b => valVarsS a && valVarsS b
  | .ite1 c t => valVarsE c && valVarsS t
  | .ite2 c t e => valVarsE c && valVarsS t && valVarsS e
  | .whileL c body => valVarsE c && valVarsS body
  | .doL body c => valVarsS body && valVarsE c
  | .forL init c next body => valVarsS init && valVarsOptE c && valVarsOptE next && valVarsS body
  | .brk => true
  | .cont => true
  | .ret none => true
  | .ret (some e) => valVarsE e

/-- No variable occurrence of the module is annotated with an array or struct type. -/
def ValueVars (M : Module) : Prop := ∀ f ∈ M.fns, valVarsS f.body = true

instance (M : Module) : Decidable (ValueVars M) := by unfold ValueVars; exact inferInstance

end Core

namespace Lower
open Core Opt WF

def AccP (V : List (Scope × VarKey)) (ins : Instr) : Prop :=
  match ins with
  | .load _ ty sc var => (sc, var) ∈ V ∧ ty.isAggregate = false
  | .store sc var _ => (sc, var) ∈ V
  | _ => True

def AccIn (V : List (Scope × VarKey)) (c : List Instr) : Prop := ∀ ins ∈ c, AccP V ins

theorem AccIn.iff_all {V : List (Scope × VarKey)} {c : List Instr} : AccIn V c ↔ All (AccP V) c := Iff.rfl

def AccPS (Γ : Env) (V : List (Scope × VarKey)) (ins : Instr) : Prop :=
  match ins with
  | .load _ ty sc var => (sc, var) ∈ V ∧ (ty.isAggregate = true → ∃ x, sc = .local ∧ var = .name x ∧ Γ x ≠ 0)
  | .store sc var _ => (sc, var) ∈ V ∧ ∀ x, sc = .local → var = .name x → Γ x = 0
  | _ => True

def AccInS (Γ : Env) (V : List (Scope × VarKey)) (c : List Instr) : Prop := ∀ ins ∈ c, AccPS Γ V ins

theorem AccInS.iff_all {Γ : Env} {V : List (Scope × VarKey)} {c : List Instr} : AccInS Γ V c ↔ All (AccPS Γ V) c :=
  Iff.rfl

theorem AccIn.single {V : List (Scope × VarKey)} {ins : Instr} (h : AccP V ins) : AccIn V [ins] :=
  All.one h

theorem AccInS.single {Γ : Env} {V : List (Scope × VarKey)} {ins : Instr} (h : AccPS Γ V ins) : AccInS Γ V [ins] :=
  All.one h

theorem AccP_substInstr (V : List (Scope × VarKey)) (σ : Subst) (ins : Instr) :
    AccP V (substInstr σ ins) ↔ AccP V ins := by
  cases ins with
  | ret o => cases o <;> exact Iff.rfl
  | _ => exact Iff.rfl

theorem AccPS_substInstr (Γ : Env) (V : List (Scope × VarKey)) (σ : Subst) (ins : Instr) :
    AccPS Γ V (substInstr σ ins) ↔ AccPS Γ V ins := by
  cases ins with
  | ret o => cases o <;> exact Iff.rfl
  | _ => exact Iff.rfl

theorem scopesAgree_spec {V : List (Scope × VarKey)} (hV : scopesAgree V = true) {sc sc' : Scope} {key : VarKey}
    (h1 : (sc', key) ∈ V) (h2 : (sc, key) ∈ V) : sc' = sc := by
  simp only [scopesAgree, List.all_eq_true] at hV
  simpa using hV _ h1 _ h2

theorem forwardOK_of_acc {V : List (Scope × VarKey)} (hV : scopesAgree V = true) (c : List Instr)
    (prev : Option Instr) : (∀ p, prev = some p → AccP V p) → AccIn V c → forwardOK prev c = true :=
  forwardOK_of_all (fun hs hl => ⟨scopesAgree_spec hV hs hl.1, hl.2⟩) c prev

theorem forwardOK_of_accS {Γ : Env} {V : List (Scope × VarKey)} (hV : scopesAgree V = true) (c : List Instr)
    (prev : Option Instr) : (∀ p, prev = some p → AccPS Γ V p) → AccInS Γ V c → forwardOK prev c = true := by
  refine forwardOK_of_all (fun {sc' var src d ty sc} hs hl => ?_) c prev
  obtain rfl := scopesAgree_spec hV hs.1 hl.1
  refine ⟨rfl, ?_⟩
  cases hag : ty.isAggregate with
  | false => rfl
  | true =>
    obtain ⟨x, hsc, hvar, hx⟩ := hl.2 hag
    exact absurd (hs.2 x hsc hvar) hx

theorem lowerFn_optOK_of_forwardOK (f : FnDef) (h : forwardOK none (pass ccDecide (lowerFn f).code) = true) :
    optOK (lowerFn f) = true := by
  simp only [optOK, Bool.and_eq_true]
  exact ⟨⟨lowerFn_blockLocal_general f, h⟩, lowerFn_defsDistinct_general f⟩


theorem acc_rules (V : List (Scope × VarKey)) : Rules
    (fun e _ c _ _ => valVarsE e = true → (∀ a ∈ accE e, a ∈ V) → All (AccP V) c)
    (fun as _ c _ _ => valVarsArgs as = true → (∀ a ∈ accArgs as, a ∈ V) → All (AccP V) c)
    (fun e _ _ c _ => valVarsE e = true → (∀ a ∈ accE e, a ∈ V) → All (AccP V) c) where
  litI _ _ _ _ := .nil
  litF _ _ _ _ := .nil
  var sc key ty k hok hV := .one ⟨hV _ (List.mem_singleton_self _), by simpa [valVarsE] using hok⟩
  bin il ir ht hok hV := by
    simp only [valVarsE, Bool.and_eq_true] at hok
    simp only [accE, List.forall_mem_append] at hV
    exact ((il hok.1 hV.1).append (ir hok.2 hV.2)).append
      (.of_binTail (fun _ _ _ _ _ => trivial) (fun _ _ _ _ => trivial) (fun _ _ _ => trivial) ht)
  cast ie hok hV := (ie hok hV).snoc (by trivial)
  assign ie is hok hV := by
    simp only [valVarsE, Bool.and_eq_true] at hok
    simp only [accE, List.forall_mem_append] at hV
    exact (ie hok.2 hV.2).append (is hok.1 hV.1)
  affix ie is hok hV := ((ie hok hV).snoc (by trivial)).append (is hok hV)
  call ia hok hV := (ia hok hV).snoc (by trivial)
  index ib ii hok hV := by
    simp only [valVarsE, Bool.and_eq_true] at hok
    simp only [accE, List.forall_mem_append] at hV
    exact ((ib hok.1 hV.1).append (ii hok.2 hV.2)).snoc (forall_idxLoad trivial trivial trivial _)
  member ib hok hV := (ib hok hV).snoc (by trivial)
  swizzle ib hok hV := (ib hok hV).snoc (by trivial)
  construct ia hok hV := (ia hok hV).snoc (by trivial)
  nil _ _ _ := .nil
  cons ie ir hok hV := by
    simp only [valVarsArgs, Bool.and_eq_true] at hok
    simp only [accArgs, List.forall_mem_append] at hV
    exact (ie hok.1 hV.1).append (ir hok.2 hV.2)
  storeVar sc key ty v k _ hV := .one (hV (sc, key) (List.mem_singleton_self _))
  storeArr ib ii hok hV := by
    simp only [valVarsE, Bool.and_eq_true] at hok
    simp only [accE, List.forall_mem_append] at hV
    exact ((ib hok.1 hV.1).append (ii hok.2 hV.2)).snoc (by trivial)
  storeVec ib ii is hok hV := by
    simp only [valVarsE, Bool.and_eq_true] at hok
    simp only [accE, List.forall_mem_append] at hV
    exact (((ib hok.1 hV.1).append (ii hok.2 hV.2)).snoc (by trivial)).append (is hok.1 hV.1)
  storeMat ib ii is hok hV := by
    simp only [valVarsE, Bool.and_eq_true] at hok
    simp only [accE, List.forall_mem_append] at hV
    exact (((ib hok.1 hV.1).append (ii hok.2 hV.2)).snoc (by trivial)).append (is hok.1 hV.1)
  storeMem ib hok hV := (ib hok hV).snoc (by trivial)
  storeSwz ib is hok hV := ((ib hok hV).snoc (by trivial)).append (is hok hV)
  storeOther _ ie := ie

theorem lowerArgs_accG (V : List (Scope × VarKey)) : ∀ (as : Args), valVarsArgs as = true →
    (∀ a ∈ accArgs as, a ∈ V) → ∀ (k : Nat) (c : List Instr) (os : List Opd) (k' : Nat),
    lowerArgs as k = (c, os, k') → AccIn V c :=
  fun _ hok hV _ _ _ _ h => (acc_rules V).ofArgs h hok hV

theorem lowerStore_accG (V : List (Scope × VarKey)) : ∀ (e : Expr), valVarsE e = true → (∀ a ∈ accE e, a ∈ V) →
    ∀ (v : Opd) (k : Nat) (c : List Instr) (k' : Nat), lowerStore e v k = (c, k') → AccIn V c :=
  fun _ hok hV _ _ _ _ h => (acc_rules V).ofStore h hok hV

theorem lowerOptE_accG (V : List (Scope × VarKey)) {oe : Option Expr} (hok : valVarsOptE oe = true)
    (hV : ∀ a ∈ accOptE oe, a ∈ V) {k : Nat} {c : List Instr} {o : Option Opd} {k' : Nat}
    (h : lowerOptE oe k = (c, o, k')) : All (AccP V) c :=
  .of_lowerOptE h fun e _ he hc => by subst he; exact (acc_rules V).ofE hc hok hV

/-- Besides expression and sub-statement code a statement emits markers, branches, `newVar`, `ret`, and the `store` of
an initialising declaration, whose variable `accS` lists. -/
theorem acc_srules (V : List (Scope × VarKey)) : SRules
    (fun _ _ s _ c _ => valVarsS s = true → (∀ a ∈ accS s, a ∈ V) → All (AccP V) c) where
  skip _ _ _ _ _ := .nil
  declNone _ _ _ _ _ _ _ := .one (by trivial)
  declInit _ _ _ _ := fun he hok hV => by
    simp only [accS, List.forall_mem_cons] at hV
    exact ((All.one (by trivial)).append ((acc_rules V).ofE he hok hV.2)).snoc hV.1
  expr _ _ := fun he hok hV => (acc_rules V).ofE he hok hV
  seq ia ib hok hV := by
    simp only [valVarsS, Bool.and_eq_true] at hok
    simp only [accS, List.forall_mem_append] at hV
    exact (ia hok.1 hV.1).append (ib hok.2 hV.2)
  ite1 hc it hok hV := by
    simp only [valVarsS, Bool.and_eq_true] at hok
    simp only [accS, List.forall_mem_append] at hV
    exact ((((acc_rules V).ofE hc hok.1 hV.1).append (.cons (by trivial) (.one (by trivial)))).append
      (it hok.2 hV.2)).snoc (by trivial)
  ite2 hc it ie hok hV := by
    simp only [valVarsS, Bool.and_eq_true] at hok
    simp only [accS, List.forall_mem_append] at hV
    exact ((((((acc_rules V).ofE hc hok.1.1 hV.1.1).append (.cons (by trivial) (.one (by trivial)))).append
      (it hok.1.2 hV.1.2)).append (.cons (by trivial) (.one (by trivial)))).append (ie hok.2 hV.2)).snoc (by trivial)
  whileL hc ib hok hV := by
    simp only [valVarsS, Bool.and_eq_true] at hok
    simp only [accS, List.forall_mem_append] at hV
    exact ((((All.one (by trivial)).append ((acc_rules V).ofE hc hok.1 hV.1)).append
      (.cons (by trivial) (.one (by trivial)))).append (ib hok.2 hV.2)).append (.cons (by trivial) (.one (by trivial)))
  doL ib hc hok hV := by
    simp only [valVarsS, Bool.and_eq_true] at hok
    simp only [accS, List.forall_mem_append] at hV
    exact ((((All.one (by trivial)).append (ib hok.1 hV.1)).snoc (by trivial)).append
      ((acc_rules V).ofE hc hok.2 hV.2)).append (.cons (by trivial) (.one (by trivial)))
  forL ii hc ib hn hok hV := by
    simp only [valVarsS, Bool.and_eq_true] at hok
    simp only [accS, List.forall_mem_append] at hV
    exact ((((((((ii hok.1.1.1 hV.1.1.1).snoc (by trivial)).append (lowerOptE_accG V hok.1.1.2 hV.1.1.2 hc)).append
      (.cons (forall_forBranch trivial (fun _ => trivial) _) (.one (by trivial)))).append (ib hok.2 hV.2)).snoc
      (by trivial)).append (lowerOptE_accG V hok.1.2 hV.1.2 hn)).append (.cons (by trivial) (.one (by trivial))))
  brk _ _ _ _ _ := .one (by trivial)
  cont _ _ _ _ _ := .one (by trivial)
  retNone _ _ _ _ _ := .one (by trivial)
  retSome _ _ := fun he hok hV => ((acc_rules V).ofE he hok hV).snoc (by trivial)

theorem lowerFn_accG (f : FnDef) (h : valVarsS f.body = true) : AccIn (accS f.body) (lowerFn f).code :=
  (acc_srules _).lowerS f.body none none 0 h fun _ ha => ha

theorem lowerFn_forwardOK_general (f : FnDef) (h : valVarsS f.body = true) (hs : noShadowFn f = true) :
    forwardOK none (pass ccDecide (lowerFn f).code) = true :=
  forwardOK_of_acc hs _ none (fun _ h => nomatch h) (All.pass (AccP_substInstr _) (lowerFn_accG f h) ccDecide)

theorem lowerFn_forwardOK_raw_general (f : FnDef) (h : valVarsS f.body = true) (hs : noShadowFn f = true) :
    forwardOK none (lowerFn f).code = true :=
  forwardOK_of_acc hs _ none (fun _ h => nomatch h) (lowerFn_accG f h)

theorem lowerFn_optOK_general (f : FnDef) (h : valVarsS f.body = true) (hs : noShadowFn f = true) :
    optOK (lowerFn f) = true :=
  lowerFn_optOK_of_forwardOK f (lowerFn_forwardOK_general f h hs)

end Lower
end Nsl
