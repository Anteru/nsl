import Nsl.Model.Wasm
import Nsl.Props.C19
/-!
# The WebAssembly writer and the independent decoder

The decoder inverts the writer class by class; an absent optional section is recognised by the id of the next
one (`HeadGt`).
-/

namespace Nsl.Wasm
open Nsl.Leb

theorem py_wInt_eq (n : Nat) : Py.wInt n = encU n := pack_eq_encU n

theorem py_wInt_eq' : Py.wInt = encU := funext py_wInt_eq

theorem py_encVec_eq {α : Type} (f : α → List Nat) (xs : List α) :
    Py.encVec f xs = encVec f xs := by
  simp only [Py.encVec, encVec, py_wInt_eq]

theorem py_encFuncType_eq : Py.encFuncType = encFuncType := by
  funext ft; simp only [Py.encFuncType, encFuncType, py_encVec_eq]

theorem py_encTable_eq : Py.encTable = encTable := by
  funext n; simp only [Py.encTable, encTable, py_wInt_eq]

theorem py_encExport_eq : Py.encExport = encExport := by
  funext e
  simp only [Py.encExport, encExport, py_wInt_eq, writeStringPy, writeString, framePy_eq_frame]

theorem py_encLocal_eq : Py.encLocal = encLocal := by
  funext g; simp only [Py.encLocal, encLocal, py_wInt_eq]

theorem py_encInstr_eq : Py.encInstr = encInstr := by
  funext i; cases i <;> simp only [Py.encInstr, encInstr, py_wInt_eq]

theorem py_encCodeBody_eq (c : WCode) : Py.encCodeBody c = encCodeBody c := by
  simp only [Py.encCodeBody, encCodeBody, py_encVec_eq, py_encLocal_eq, py_encInstr_eq]

theorem py_encCode_eq : Py.encCode = encCode := by
  funext c; simp only [Py.encCode, encCode, py_encCodeBody_eq, framePy_eq_frame]

theorem py_encOptSection_eq {α : Type} (id : Nat) (f : α → List Nat) (xs : List α) :
    Py.encOptSection id f xs = encOptSection id f xs := by
  simp only [Py.encOptSection, encOptSection, py_encVec_eq, sectionBytesPy_eq]

theorem decVecN_enc {α : Type} {p : List Nat → Option (α × List Nat)} {f : α → List Nat} :
    ∀ (xs : List α), (∀ x ∈ xs, ∀ rest, p (f x ++ rest) = some (x, rest)) →
      ∀ rest, decVecN p xs.length (xs.flatMap f ++ rest) = some (xs, rest)
  | [], _, rest => by simp [decVecN]
  | x :: xs, h, rest => by
    have hx := h x (List.mem_cons_self ..) (xs.flatMap f ++ rest)
    have ih := decVecN_enc xs (fun y hy => h y (List.mem_cons_of_mem _ hy)) rest
    simp only [List.length_cons, List.flatMap_cons, List.append_assoc, decVecN, hx, ih]

theorem decVec_enc {α : Type} {p : List Nat → Option (α × List Nat)} {f : α → List Nat}
    (xs : List α) (h : ∀ x ∈ xs, ∀ rest, p (f x ++ rest) = some (x, rest)) (rest : List Nat) :
    decVec p (encVec f xs ++ rest) = some (xs, rest) := by
  simp only [decVec, encVec, List.append_assoc, decU_encU, decVecN_enc xs h rest]

theorem decVT_enc (t : VT) (rest : List Nat) : decVT (encVT t ++ rest) = some (t, rest) := by
  cases t <;> simp [decVT, encVT, VT.byte]

theorem decFuncType_enc (ft : FuncType) (rest : List Nat) :
    decFuncType (encFuncType ft ++ rest) = some (ft, rest) := by
  simp only [encFuncType, List.cons_append, List.append_assoc, decFuncType, if_true,
    decVec_enc _ (fun x _ r => decVT_enc x r)]

theorem decIdx_enc (i : Nat) (rest : List Nat) : decIdx (encU i ++ rest) = some (i, rest) :=
  decU_encU i rest

theorem decTable_enc (n : Nat) (rest : List Nat) :
    decTable (encTable n ++ rest) = some (n, rest) := by
  simp [encTable, decTable, decU_encU]

theorem bytesToString_utf8 (s : String) : bytesToString (utf8 s) = some s := by
  have hall : (utf8 s).all (· < 256) = true :=
    List.all_eq_true.2 fun b hb => decide_eq_true (utf8_bytes s b hb)
  -- `UInt8.ofNat ∘ UInt8.toNat = id`, and the bytes of `s` are valid UTF-8
  have hid : (utf8 s).map UInt8.ofNat = s.toUTF8.data.toList := by
    rw [utf8, List.map_map]
    exact (List.map_congr_left fun a _ => UInt8.ofNat_toNat).trans (List.map_id _)
  unfold bytesToString
  rw [hall, if_pos rfl, hid]
  simp only [String.toUTF8_eq_toByteArray, Array.toArray_toList]
  unfold String.fromUTF8?
  rw [dif_pos s.isValidUTF8]
  rfl

theorem decExport_enc (e : WExport) (rest : List Nat) :
    decExport (encExport e ++ rest) = some (e, rest) := by
  simp only [encExport, writeString, List.append_assoc, List.cons_append, decExport,
    unframe_frame, bytesToString_utf8, if_true, decU_encU]

theorem decLocal_enc (g : Nat × VT) (rest : List Nat) :
    decLocal (encLocal g ++ rest) = some (g, rest) := by
  have := decVT_enc g.2 rest
  simp only [encVT] at this
  simp only [encLocal, List.append_assoc, decLocal, decU_encU, this]

theorem NumOp.ofByte_byte (op : NumOp) : NumOp.ofByte op.byte = some op := by
  cases op <;> rfl

theorem NumOp.byte_ge (op : NumOp) : 0x46 ≤ op.byte := by cases op <;> decide

theorem le32_roundtrip (b : Nat) (h : b < 2 ^ 32) :
    b % 256 + 256 * (b / 256 % 256) + 65536 * (b / 65536 % 256) +
      16777216 * (b / 16777216 % 256) = b := by
  omega

theorem decInstr_enc (i : WInstr) (h : instrWF i = true) (rest : List Nat) :
    decInstr (encInstr i ++ rest) = some (i, rest) := by
  cases i with
  | localGet k => simp [encInstr, decInstr, decU_encU]
  | localSet k => simp [encInstr, decInstr, decU_encU]
  | i32Const v =>
    simp only [instrWF, decide_eq_true_eq] at h
    have h' : -2147483648 ≤ v ∧ v < 2147483648 := by omega
    simp [encInstr, decInstr, decS_encS, h']
  | f32Const b =>
    simp only [instrWF, decide_eq_true_eq] at h
    have h1 : b % 256 < 256 := Nat.mod_lt _ (by decide)
    have h2 : b / 256 % 256 < 256 := Nat.mod_lt _ (by decide)
    have h3 : b / 65536 % 256 < 256 := Nat.mod_lt _ (by decide)
    have h4 : b / 16777216 % 256 < 256 := Nat.mod_lt _ (by decide)
    simp [encInstr, decInstr, le32, h1, h2, h3, h4, le32_roundtrip b h]
  | num op =>
    -- the numeric opcodes start at 0x46, above the five opcodes that `decInstr` tests first
    have := op.byte_ge
    simp only [encInstr, List.cons_append, List.nil_append, decInstr]
    rw [if_neg (by omega), if_neg (by omega), if_neg (by omega), if_neg (by omega),
      if_neg (by omega), NumOp.ofByte_byte]
  | ret => simp [encInstr, decInstr]

theorem encInstr_cons (i : WInstr) : ∃ b r, encInstr i = b :: r ∧ b ≠ 0x0B := by
  cases i with
  | num op => exact ⟨_, _, rfl, by have := op.byte_ge; omega⟩
  | _ => exact ⟨_, _, rfl, by decide⟩

theorem decExpr_enc {is : List WInstr} {fuel : Nat} (hwf : ∀ i ∈ is, instrWF i = true)
    (hf : (is.flatMap encInstr).length + 1 ≤ fuel) :
    decExpr fuel (is.flatMap encInstr ++ [0x0B]) = some is := by
  induction is generalizing fuel with
  | nil =>
    obtain ⟨f, rfl⟩ : ∃ f, fuel = f + 1 := ⟨fuel - 1, by omega⟩
    rfl
  | cons i is ih =>
    obtain ⟨f, rfl⟩ : ∃ f, fuel = f + 1 := ⟨fuel - 1, by omega⟩
    obtain ⟨b, r, hb, hne⟩ := encInstr_cons i
    rw [List.flatMap_cons, List.length_append, hb, List.length_cons] at hf
    have ih' := ih (fuel := f) (fun j hj => hwf j (List.mem_cons_of_mem _ hj)) (by omega)
    rw [List.flatMap_cons, List.append_assoc, decExpr,
      if_neg (by rw [hb]; intro hc; injection hc with h1; exact hne h1),
      decInstr_enc i (hwf i (List.mem_cons_self ..))]
    simp only [ih']

theorem decCodeBody_enc (c : WCode) (h : ∀ i ∈ c.body, instrWF i = true) :
    decCodeBody (encCodeBody c) = some c := by
  simp only [decCodeBody, encCodeBody, decVec_enc _ (fun g _ r => decLocal_enc g r)]
  rw [decExpr_enc h (by simp)]

theorem decCode_enc (c : WCode) (h : ∀ i ∈ c.body, instrWF i = true) (rest : List Nat) :
    decCode (encCode c ++ rest) = some (c, rest) := by
  simp only [decCode, encCode, unframe_frame, decCodeBody_enc c h]

def HeadGt (k : Nat) (bs : List Nat) : Prop := ∀ b ∈ bs.head?, k < b

theorem headGt_nil (k : Nat) : HeadGt k [] := by simp [HeadGt]

theorem headGt_section {k id : Nat} (h : k < id) (p rest : List Nat) :
    HeadGt k (sectionBytes id p ++ rest) := by
  simp [HeadGt, sectionBytes, h]

theorem headGt_opt {α : Type} {k id : Nat} (h : k < id) (f : α → List Nat) (xs : List α)
    {rest : List Nat} (hr : HeadGt k rest) : HeadGt k (encOptSection id f xs ++ rest) := by
  unfold encOptSection
  split
  · simpa using hr
  · exact headGt_section h _ _

theorem HeadGt.mono {k k' : Nat} {bs : List Nat} (h : HeadGt k' bs) (hk : k ≤ k') : HeadGt k bs :=
  fun b hb => Nat.lt_of_le_of_lt hk (h b hb)

theorem decSectionOpt_present {α : Type} {p : List Nat → Option (α × List Nat)} {f : α → List Nat}
    (id : Nat) (xs : List α) (h : ∀ x ∈ xs, ∀ rest, p (f x ++ rest) = some (x, rest))
    (rest : List Nat) :
    decSectionOpt id p (sectionBytes id (encVec f xs) ++ rest) = some (xs, rest) := by
  have h1 := unsection_section id (encVec f xs) rest
  have h2 := decVec_enc xs h []
  rw [List.append_nil] at h2
  simp only [sectionBytes, List.cons_append] at h1 ⊢
  simp only [decSectionOpt, if_true, h1, h2]

theorem decSectionOpt_absent {α : Type} {p : List Nat → Option (α × List Nat)}
    (id : Nat) (bs : List Nat) (h : HeadGt id bs) :
    decSectionOpt id p bs = some ([], bs) := by
  cases bs with
  | nil => rfl
  | cons b r =>
    have : b ≠ id := by
      have := h b (by simp)
      omega
    simp [decSectionOpt, this]

theorem decSectionOpt_enc {α : Type} {p : List Nat → Option (α × List Nat)} {f : α → List Nat}
    (id : Nat) (xs : List α) (h : ∀ x ∈ xs, ∀ rest, p (f x ++ rest) = some (x, rest))
    (rest : List Nat) (hr : HeadGt id rest) :
    decSectionOpt id p (encOptSection id f xs ++ rest) = some (xs, rest) := by
  unfold encOptSection
  cases xs with
  | nil => simpa using decSectionOpt_absent id rest hr
  | cons x xs => simpa using decSectionOpt_present id (x :: xs) h rest

theorem scanSections_flatMap : ∀ (secs : List (Nat × List Nat)),
    scanSections secs.length (secs.flatMap fun s => sectionBytes s.1 s.2) = some secs
  | [] => by simp [scanSections]
  | s :: secs => by
    have ih := scanSections_flatMap secs
    have h1 := unsection_section s.1 s.2 (secs.flatMap fun s => sectionBytes s.1 s.2)
    simp only [sectionBytes, List.cons_append] at h1
    simp only [List.flatMap_cons, List.length_cons, sectionBytes, List.cons_append, scanSections,
      h1]
    simp only [sectionBytes] at ih
    rw [ih]

theorem encOptSection_entries {α : Type} (id : Nat) (f : α → List Nat) (xs : List α) :
    encOptSection id f xs = (optSectionEntry id f xs).flatMap fun s => sectionBytes s.1 s.2 := by
  unfold encOptSection optSectionEntry
  split <;> simp

theorem optSectionEntry_sublist {α : Type} (id : Nat) (f : α → List Nat) (xs : List α) :
    ((optSectionEntry id f xs).map (·.1)).Sublist [id] := by
  unfold optSectionEntry
  split
  · exact List.nil_sublist _
  · exact List.Sublist.refl _

theorem sectionIds_sublist (m : WModule) : ((sectionsOf m).map (·.1)).Sublist [1, 3, 4, 7, 10] := by
  simp only [sectionsOf, List.map_cons, List.map_append]
  exact .cons_cons 1 ((optSectionEntry_sublist 3 ..).append ((optSectionEntry_sublist 4 ..).append
    ((optSectionEntry_sublist 7 ..).append (optSectionEntry_sublist 10 ..))))

theorem encModule_sections (m : WModule) :
    encModule m = magic ++ (version ++ (sectionsOf m).flatMap fun s => sectionBytes s.1 s.2) := by
  simp only [encModule, sectionsOf, encOptSection_entries, List.flatMap_cons, List.flatMap_append]

theorem sectionsOf_ascending (m : WModule) :
    ((sectionsOf m).map (·.1)).Pairwise (· < ·) :=
  (by decide : [1, 3, 4, 7, 10].Pairwise (· < ·)).sublist (sectionIds_sublist m)

def AllBytes (bs : List Nat) : Prop := ∀ b ∈ bs, b < 256

theorem allBytes_nil : AllBytes [] := by simp [AllBytes]

theorem allBytes_append {a b : List Nat} (ha : AllBytes a) (hb : AllBytes b) : AllBytes (a ++ b) := by
  intro x hx
  rcases List.mem_append.1 hx with h | h
  · exact ha x h
  · exact hb x h

theorem allBytes_cons {a : Nat} {b : List Nat} (ha : a < 256) (hb : AllBytes b) :
    AllBytes (a :: b) := by
  intro x hx
  rcases List.mem_cons.1 hx with h | h
  · subst h; exact ha
  · exact hb x h

theorem allBytes_flatMap {α : Type} {f : α → List Nat} {xs : List α}
    (h : ∀ x ∈ xs, AllBytes (f x)) : AllBytes (xs.flatMap f) := by
  intro b hb
  obtain ⟨x, hx, hbx⟩ := List.mem_flatMap.1 hb
  exact h x hx b hbx

theorem allBytes_encU (n : Nat) : AllBytes (encU n) := encU_bytes n

theorem allBytes_frame {p : List Nat} (h : AllBytes p) : AllBytes (frame p) :=
  allBytes_append (allBytes_encU _) h

theorem allBytes_section {id : Nat} {p : List Nat} (hid : id < 256) (h : AllBytes p) :
    AllBytes (sectionBytes id p) :=
  allBytes_cons hid (allBytes_frame h)

theorem allBytes_encVec {α : Type} {f : α → List Nat} {xs : List α}
    (h : ∀ x ∈ xs, AllBytes (f x)) : AllBytes (encVec f xs) :=
  allBytes_append (allBytes_encU _) (allBytes_flatMap h)

theorem VT.byte_lt (t : VT) : t.byte < 256 := by cases t <;> decide

theorem NumOp.byte_lt (o : NumOp) : o.byte < 256 := by cases o <;> decide

theorem allBytes_encVT (t : VT) : AllBytes (encVT t) :=
  allBytes_cons t.byte_lt allBytes_nil

theorem allBytes_encFuncType (ft : FuncType) : AllBytes (encFuncType ft) :=
  allBytes_cons (by decide) (allBytes_append (allBytes_encVec fun t _ => allBytes_encVT t)
    (allBytes_encVec fun t _ => allBytes_encVT t))

theorem allBytes_encTable (n : Nat) : AllBytes (encTable n) :=
  allBytes_cons (by decide) (allBytes_cons (by decide) (allBytes_encU n))

theorem allBytes_encExport (e : WExport) : AllBytes (encExport e) :=
  allBytes_append (allBytes_frame (utf8_bytes e.name)) (allBytes_cons (by decide) (allBytes_encU _))

theorem allBytes_encLocal (g : Nat × VT) : AllBytes (encLocal g) :=
  allBytes_append (allBytes_encU _) (allBytes_cons g.2.byte_lt allBytes_nil)

theorem allBytes_le32 (n : Nat) : AllBytes (le32 n) := by
  intro b hb
  simp only [le32, List.mem_cons, List.not_mem_nil, or_false] at hb
  omega

theorem allBytes_encInstr (i : WInstr) : AllBytes (encInstr i) := by
  cases i with
  | localGet k => exact allBytes_cons (by decide) (allBytes_encU k)
  | localSet k => exact allBytes_cons (by decide) (allBytes_encU k)
  | i32Const v => exact allBytes_cons (by decide) (encS_bytes v)
  | f32Const b => exact allBytes_cons (by decide) (allBytes_le32 b)
  | num o => exact allBytes_cons o.byte_lt allBytes_nil
  | ret => exact allBytes_cons (by decide) allBytes_nil

theorem allBytes_encCode (c : WCode) : AllBytes (encCode c) :=
  allBytes_frame (allBytes_append (allBytes_encVec fun g _ => allBytes_encLocal g)
    (allBytes_append (allBytes_flatMap fun i _ => allBytes_encInstr i)
      (allBytes_cons (by decide) allBytes_nil)))

theorem allBytes_encOptSection {α : Type} {id : Nat} {f : α → List Nat} {xs : List α}
    (hid : id < 256) (h : ∀ x ∈ xs, AllBytes (f x)) : AllBytes (encOptSection id f xs) := by
  unfold encOptSection
  split
  · exact allBytes_nil
  · exact allBytes_section hid (allBytes_encVec h)

theorem allBytes_encModule (m : WModule) : AllBytes (encModule m) := by
  unfold encModule
  refine allBytes_append (by intro b hb; simp [magic] at hb; omega)
    (allBytes_append (by intro b hb; simp [version] at hb; omega) ?_)
  refine allBytes_append (allBytes_section (by decide)
    (allBytes_encVec fun ft _ => allBytes_encFuncType ft)) ?_
  refine allBytes_append (allBytes_encOptSection (by decide) fun i _ => allBytes_encU i) ?_
  refine allBytes_append (allBytes_encOptSection (by decide) fun i _ => allBytes_encTable i) ?_
  exact allBytes_append (allBytes_encOptSection (by decide) fun e _ => allBytes_encExport e)
    (allBytes_encOptSection (by decide) fun c _ => allBytes_encCode c)

end Nsl.Wasm
