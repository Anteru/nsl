import Nsl.Model.Opt
/-!
# The syntax-directed views of an instruction, and what rewiring operands does to them

What the proofs about the optimiser and about block-locality need from the 20 constructors of `Instr`, once:
`usesOf` is the references among the operands `opsOf`, `substInstr σ` maps `substOpd σ` over them and changes nothing
else, "is a label marker" is `labelOf ins = some l`, and `blockLocal_cons` says what `blockLocal` checks at one
instruction, uniformly for markers and non-markers.
-/
namespace Nsl
namespace Opt
open WF

/-- the operands of an instruction, in the order in which `usesOf` lists their references -/
def opsOf : Instr → List Opd
  | .label _ => []
  | .load _ _ _ _ => []
  | .store _ _ src => [src]
  | .newVar _ _ _ => []
  | .bin _ _ _ a b => [a, b]
  | .cast _ _ a => [a]
  | .br _ => []
  | .brc p _ _ => [p]
  | .ret none => []
  | .ret (some v) => [v]
  | .call _ _ _ args => args
  | .loadArr _ _ arr idx => [arr, idx]
  | .storeArr arr idx src => [arr, idx, src]
  | .loadMem _ _ obj _ => [obj]
  | .storeMem obj _ src => [obj, src]
  | .vecGet _ _ v idx => [v, idx]
  | .vecSet _ _ v idx src => [v, idx, src]
  | .matGet _ _ m idx => [m, idx]
  | .matSet _ _ m idx src => [m, idx, src]
  | .shuffle _ _ a b _ => [a, b]
  | .construct _ _ vals => vals

theorem mem_opdsRefs {r : Nat} : ∀ {os : List Opd}, r ∈ opdsRefs os ↔ .ref r ∈ os
  | [] => by simp [opdsRefs]
  | o :: os => by
    rw [opdsRefs, List.mem_append, mem_opdsRefs (os := os), List.mem_cons]
    cases o <;> simp [opdRefs]

theorem usesOf_eq_opsOf (i : Instr) : usesOf i = opdsRefs (opsOf i) := by
  cases i with
  | ret o => cases o <;> simp only [usesOf, opsOf, opdsRefs, List.append_nil]
  | _ => simp only [usesOf, opsOf, opdsRefs, List.append_nil, List.append_assoc]

theorem mem_usesOf {r : Nat} {i : Instr} : r ∈ usesOf i ↔ .ref r ∈ opsOf i := by
  rw [usesOf_eq_opsOf, mem_opdsRefs]

theorem substOpd_ref_some {σ : Subst} {d : Nat} {o : Opd} (h : Map.get σ d = some o) : substOpd σ (.ref d) = o := by
  simp only [substOpd, h, Option.getD_some]

theorem substOpd_ref_none {σ : Subst} {d : Nat} (h : Map.get σ d = none) : substOpd σ (.ref d) = .ref d := by
  simp only [substOpd, h, Option.getD_none]

/-! Every case below is `rfl`, except that `.ret` has an optional operand and needs one more split. -/

theorem opsOf_substInstr (σ : Subst) (i : Instr) : opsOf (substInstr σ i) = (opsOf i).map (substOpd σ) := by
  cases i <;> first | rfl | (rename_i o; cases o <;> rfl)

theorem defOf_substInstr (σ : Subst) (i : Instr) : defOf (substInstr σ i) = defOf i := by
  cases i <;> first | rfl | (rename_i o; cases o <;> rfl)

theorem labelOf_substInstr (σ : Subst) (i : Instr) : labelOf (substInstr σ i) = labelOf i := by
  cases i <;> first | rfl | (rename_i o; cases o <;> rfl)

theorem targetsOf_substInstr (σ : Subst) (i : Instr) : targetsOf (substInstr σ i) = targetsOf i := by
  cases i <;> first | rfl | (rename_i o; cases o <;> rfl)

theorem callOK_substInstr (P : Program) (σ : Subst) (i : Instr) : callOK P (substInstr σ i) = callOK P i := by
  cases i with
  | ret o => cases o <;> rfl
  | call d t f args => simp only [substInstr, callOK, List.length_map]
  | _ => rfl

theorem uses_subst (σ : Subst) {x : Nat} {i : Instr} (h : x ∈ usesOf (substInstr σ i)) :
    ∃ r, r ∈ usesOf i ∧ x ∈ opdRefs (substOpd σ (.ref r)) := by
  rw [mem_usesOf, opsOf_substInstr] at h
  obtain ⟨o, ho, he⟩ := List.mem_map.1 h
  cases o with
  | ref r => exact ⟨r, mem_usesOf.2 ho, by rw [he]; exact List.mem_singleton_self x⟩
  | cInt i => cases he
  | cFlt f => cases he

theorem labelOf_eq_some {i : Instr} {l : Nat} (h : labelOf i = some l) : i = .label l := by
  cases i <;> cases h <;> rfl

theorem labelOf_of_defOf {i : Instr} {d : Nat} (h : defOf i = some d) : labelOf i = none := by
  cases i <;> first | rfl | cases h

theorem labelOf_of_uses {i : Instr} {r : Nat} (h : r ∈ usesOf i) : labelOf i = none := by
  cases hl : labelOf i with
  | none => rfl
  | some l => rw [labelOf_eq_some hl] at h; cases h

theorem labelPos_go_cons (l : Nat) (ins : Instr) (rest : List Instr) (i : Nat) :
    labelPos.go l (ins :: rest) i = if labelOf ins = some l then some i else labelPos.go l rest (i + 1) := by
  cases ins with
  | label l' => simp only [labelPos.go, labelOf, Option.some.injEq]
  | _ => rfl

theorem labelPos_go_succ (l : Nat) : ∀ (code : List Instr) (i : Nat),
    labelPos.go l code (i + 1) = (labelPos.go l code i).map (· + 1)
  | [], _ => rfl
  | ins :: rest, i => by
    rw [labelPos_go_cons, labelPos_go_cons]
    split
    · rfl
    · exact labelPos_go_succ l rest (i + 1)

theorem labelPos_go_some (l : Nat) : ∀ (code : List Instr) (i p : Nat), labelPos.go l code i = some p →
    ∃ k, p = i + k ∧ code[k]? = some (.label l)
  | [], _, _, h => by cases h
  | ins :: rest, i, p, h => by
    rw [labelPos_go_cons] at h
    split at h
    · rename_i hl
      cases h
      exact ⟨0, rfl, by rw [labelOf_eq_some hl]; rfl⟩
    · obtain ⟨k, rfl, hk⟩ := labelPos_go_some l rest (i + 1) p h
      exact ⟨k + 1, by omega, hk⟩

theorem labelPos_some {code : List Instr} {l p : Nat} (h : labelPos code l = some p) :
    code[p]? = some (.label l) := by
  obtain ⟨k, rfl, hk⟩ := labelPos_go_some l code 0 p h
  rwa [Nat.zero_add]

/-- how `blockLocal` updates `seen` over one instruction -/
def seenStep (seen : List Nat) (ins : Instr) : List Nat :=
  match ins with
  | .label _ => []
  | _ => match defOf ins with
    | some d => d :: seen
    | none => seen

/-- the `seen` argument with which `blockLocal` reaches the end of `pre` -/
def seenOf (seen : List Nat) : List Instr → List Nat
  | [] => seen
  | ins :: rest => seenOf (seenStep seen ins) rest

def defs (code : List Instr) : List Nat := code.filterMap defOf

theorem seenStep_nonlabel {ins : Instr} (hl : labelOf ins = none) (seen : List Nat) :
    seenStep seen ins = (defOf ins).toList ++ seen := by
  cases ins <;> first | rfl | cases hl

theorem seenStep_of_label {ins : Instr} {l : Nat} (hl : labelOf ins = some l) (seen : List Nat) :
    seenStep seen ins = [] := by
  rw [labelOf_eq_some hl]; rfl

theorem seenOf_append_singleton : ∀ (pre : List Instr) (seen : List Nat) (x : Instr),
    seenOf seen (pre ++ [x]) = seenStep (seenOf seen pre) x
  | [], _, _ => rfl
  | _ :: rest, _, x => seenOf_append_singleton rest _ x

theorem defs_cons (ins : Instr) (rest : List Instr) : defs (ins :: rest) = (defOf ins).toList ++ defs rest := by
  rw [defs, List.filterMap_cons]
  cases defOf ins <;> rfl

theorem defs_append (a b : List Instr) : defs (a ++ b) = defs a ++ defs b :=
  List.filterMap_append

theorem mem_defs_cons_of_mem {ins : Instr} {rest : List Instr} {r : Nat} (h : r ∈ defs rest) :
    r ∈ defs (ins :: rest) := by
  rw [defs_cons]; exact List.mem_append_right _ h

theorem defs_map_subst (σ : Subst) (l : List Instr) : defs (l.map (substInstr σ)) = defs l := by
  rw [defs, List.filterMap_map, defs]
  congr 1
  funext i
  exact defOf_substInstr σ i

theorem seenOf_sub_defs : ∀ (pre : List Instr) (seen : List Nat) (r : Nat), r ∈ seenOf seen pre →
    r ∈ seen ∨ r ∈ defs pre
  | [], _, _, h => Or.inl h
  | ins :: rest, seen, r, h => by
    rcases seenOf_sub_defs rest _ r h with h1 | h1
    · cases hl : labelOf ins with
      | some l => rw [seenStep_of_label hl] at h1; cases h1
      | none =>
        rw [seenStep_nonlabel hl, List.mem_append] at h1
        rcases h1 with h2 | h2
        · right; rw [defs_cons]; exact List.mem_append_left _ h2
        · exact Or.inl h2
    · exact Or.inr (mem_defs_cons_of_mem h1)

theorem distinct_iff_nodup : ∀ {l : List Nat}, distinct l = true ↔ l.Nodup
  | [] => ⟨fun _ => List.nodup_nil, fun _ => rfl⟩
  | x :: xs => by
    rw [distinct, Bool.and_eq_true, Bool.not_eq_true', List.contains_eq_mem, decide_eq_false_iff_not,
      List.nodup_cons, distinct_iff_nodup]

theorem defsDistinct_nodup {code : List Instr} (h : defsDistinct code = true) : (defs code).Nodup :=
  distinct_iff_nodup.1 h

theorem nodup_defsDistinct {code : List Instr} (h : (defs code).Nodup) : defsDistinct code = true :=
  distinct_iff_nodup.2 h

theorem blockLocal_cons {seen : List Nat} {ins : Instr} {rest : List Instr} :
    blockLocal seen (ins :: rest) = true ↔
      (∀ r ∈ usesOf ins, r ∈ seen) ∧ (∀ d, defOf ins = some d → d ∉ seen) ∧
        blockLocal (seenStep seen ins) rest = true := by
  cases hl : labelOf ins with
  | some l =>
    rw [labelOf_eq_some hl]
    exact ⟨fun h => ⟨fun _ hr => (nomatch hr), fun _ hd => (nomatch hd), h⟩, fun h => h.2.2⟩
  | none =>
    have h : blockLocal seen (ins :: rest) =
        ((usesOf ins).all (fun r => seen.contains r) &&
          (match defOf ins with
           | some d => !seen.contains d && blockLocal (d :: seen) rest
           | none => blockLocal seen rest)) := by
      cases ins <;> first | rfl | cases hl
    have hmem : (∀ r ∈ usesOf ins, seen.contains r = true) ↔ ∀ r ∈ usesOf ins, r ∈ seen := by
      simp only [List.contains_eq_mem, decide_eq_true_eq]
    rw [h, seenStep_nonlabel hl, Bool.and_eq_true, List.all_eq_true, hmem]
    cases defOf ins with
    | none => exact and_congr_right fun _ => ⟨fun h => ⟨nofun, h⟩, fun h => h.2⟩
    | some d =>
      rw [Bool.and_eq_true, Bool.not_eq_true', List.contains_eq_mem, decide_eq_false_iff_not]
      exact and_congr_right fun _ =>
        ⟨fun h => ⟨fun d' hd => by cases hd; exact h.1, h.2⟩, fun h => ⟨h.1 d rfl, h.2⟩⟩

theorem blockLocal_append : ∀ (pre : List Instr) (seen : List Nat) (suf : List Instr),
    blockLocal seen (pre ++ suf) = true → blockLocal (seenOf seen pre) suf = true
  | [], _, _, h => h
  | _ :: rest, _, suf, h => blockLocal_append rest _ suf (blockLocal_cons.1 h).2.2

theorem take_cons_drop {α} (l : List α) (n : Nat) (a : α) (h : l[n]? = some a) :
    l = l.take n ++ a :: l.drop (n + 1) ∧ l.take (n + 1) = l.take n ++ [a] := by
  constructor
  · conv => lhs; rw [← List.take_append_drop n l, List.drop_eq_getElem?_toList_append, h]
    rfl
  · rw [List.take_add_one, h]; rfl

/-- the `prev` argument with which `scan`/`forwardOK` reach the end of `pre` -/
def lastOr (prev : Option Instr) : List Instr → Option Instr
  | [] => prev
  | x :: xs => lastOr (some x) xs

theorem lastOr_append_singleton : ∀ (pre : List Instr) (prev : Option Instr) (x : Instr),
    lastOr prev (pre ++ [x]) = some x
  | [], _, _ => rfl
  | _ :: rest, _, x => lastOr_append_singleton rest _ x

section
variable {code : List Instr} {pc : Nat} {ins : Instr}

theorem seenOf_take_succ (hc : code[pc]? = some ins) :
    seenOf [] (code.take (pc + 1)) = seenStep (seenOf [] (code.take pc)) ins := by
  rw [(take_cons_drop code pc ins hc).2, seenOf_append_singleton]

theorem lastOr_take_succ (hc : code[pc]? = some ins) : lastOr none (code.take (pc + 1)) = some ins := by
  rw [(take_cons_drop code pc ins hc).2, lastOr_append_singleton]

theorem blockLocal_at (hbl : blockLocal [] code = true) (hc : code[pc]? = some ins) :
    (∀ r ∈ usesOf ins, r ∈ seenOf [] (code.take pc)) ∧ ∀ d, defOf ins = some d → d ∉ seenOf [] (code.take pc) := by
  rw [(take_cons_drop code pc ins hc).1] at hbl
  have h := blockLocal_cons.1 (blockLocal_append _ _ _ hbl)
  exact ⟨h.1, h.2.1⟩

theorem forwardOK_append : ∀ (pre : List Instr) (prev : Option Instr) (suf : List Instr),
    forwardOK prev (pre ++ suf) = true → forwardOK (lastOr prev pre) suf = true
  | [], _, _, h => h
  | _ :: rest, _, suf, h => by
    simp only [List.cons_append, forwardOK, Bool.and_eq_true] at h
    exact forwardOK_append rest _ suf h.2

theorem forwardOK_at {d : Nat} {ty : ITy} {sc sc' : Scope} {var : VarKey} {src : Opd}
    (hf : forwardOK none code = true) (hc : code[pc]? = some (.load d ty sc var))
    (hl : lastOr none (code.take pc) = some (.store sc' var src)) : sc' = sc ∧ ty.isAggregate = false := by
  rw [(take_cons_drop code pc _ hc).1] at hf
  have h := forwardOK_append _ _ _ hf
  simp only [hl, forwardOK, Bool.and_eq_true] at h
  simpa using h.1

end

end Opt
end Nsl
