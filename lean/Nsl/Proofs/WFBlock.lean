import Nsl.Proofs.WF
import Nsl.Proofs.InstrViews
/-!
# Well-formedness (`WF`) from block-locality (C14, structural route)

`Nsl/Props/C14.lean` proves `WF` from a certificate produced by a data-flow analysis.  Here the hard fields of `WF`
come from the syntactic side conditions of the optimiser (`blockLocal`, `defsDistinct`), the easy ones from three
Boolean checkers of `Nsl/Model/Opt.lean`.  Key fact for `definedOnAllPaths`: a position that is not a label marker is
entered by fall-through only (`path_pred`), so a path from the entry ending in `q` ends with `d, d+1, …, q` whenever
no position in `(d, q]` is a marker (`path_suffix`); `blockLocal` provides such a `d` defining the reference
(`seenOf_take_def`).
-/
namespace Nsl
namespace Opt
open WF

theorem defsDistinct_uniqueDefs {code : List Instr} (hd : defsDistinct code = true) :
    ∀ (i j : Nat) (a b : Instr) (r : Nat),
      code[i]? = some a → code[j]? = some b → defOf a = some r → defOf b = some r → i = j :=
  nodup_filterMap_idx defOf code (distinct_iff_nodup.1 hd)

theorem labelsDistinct_uniqueLabels {code : List Instr} (hl : labelsDistinct code = true) :
    ∀ (i j l : Nat), code[i]? = some (.label l) → code[j]? = some (.label l) → i = j :=
  fun i j l hi hj => nodup_filterMap_idx labelOf code (distinct_iff_nodup.1 hl) i j _ _ l hi hj rfl rfl

theorem targetsOK_targetsExist {code : List Instr} (ht : targetsOK code = true) :
    ∀ (i : Nat) (ins : Instr) (l : Nat), code[i]? = some ins → l ∈ targetsOf ins →
      ∃ p, labelPos code l = some p ∧ code[p]? = some (.label l) := by
  intro i ins l hi hl
  simp only [targetsOK, List.all_eq_true] at ht
  obtain ⟨p, hp⟩ := Option.isSome_iff_exists.1 (ht ins (List.mem_of_getElem? hi) l hl)
  exact ⟨p, hp, labelPos_some hp⟩

theorem callsOK_callsResolve {fn : Func} {P : Program} (hc : callsOK fn P = true) :
    ∀ (i dst : Nat) (ty : ITy) (f : String) (args : List Opd),
      fn.code[i]? = some (.call dst ty f args) →
      ∃ callee, P.find f = some callee ∧ callee.params.length = args.length := by
  intro i dst ty f args hi
  simp only [callsOK, List.all_eq_true] at hc
  have := hc _ (List.mem_of_getElem? hi)
  simp only [callOK] at this
  cases hf : P.find f with
  | none => rw [hf] at this; cases this
  | some callee =>
    simp only [hf, beq_iff_eq] at this
    exact ⟨callee, rfl, this⟩

theorem isPath_edge {code : List Instr} : ∀ (p : List Nat) (i a b : Nat), IsPath code p →
    p[i]? = some a → p[i + 1]? = some b → b ∈ succs code a
  | [], _, _, _, _, h, _ => by cases h
  | [_], i, a, b, _, _, h => by cases h
  | x :: y :: rest, 0, a, b, hp, ha, hb => by
    cases ha; cases hb
    exact hp.1
  | x :: y :: rest, i + 1, a, b, hp, ha, hb => isPath_edge (y :: rest) i a b hp.2 ha hb

theorem mem_tgtPos {code : List Instr} {l m : Nat} (h : m ∈ tgtPos code l) : code[m]? = some (.label l) := by
  unfold tgtPos at h
  cases hp : labelPos code l with
  | none => rw [hp] at h; cases h
  | some p =>
    rw [hp] at h
    cases List.mem_singleton.1 h
    exact labelPos_some hp

theorem succs_label_or_next {code : List Instr} {a m : Nat} (h : m ∈ succs code a) :
    (∃ l, code[m]? = some (.label l)) ∨ m = a + 1 := by
  unfold succs at h
  split at h
  · cases h
  · exact Or.inl ⟨_, mem_tgtPos h⟩
  · rcases List.mem_append.1 h with h | h
    · exact Or.inl ⟨_, mem_tgtPos h⟩
    · exact Or.inl ⟨_, mem_tgtPos h⟩
  · cases h
  · right
    split at h
    · exact List.mem_singleton.1 h
    · cases h

theorem path_pred {code : List Instr} {p : List Nat} {i m : Nat} (hpath : IsPath code p)
    (hm : p[i + 1]? = some m) (hnl : ∀ l, code[m]? ≠ some (.label l)) : ∃ a, p[i]? = some a ∧ m = a + 1 := by
  have hlt : i < p.length := by have := (List.getElem?_eq_some_iff.1 hm).1; omega
  refine ⟨p[i], List.getElem?_eq_getElem hlt, ?_⟩
  rcases succs_label_or_next (isPath_edge p i _ _ hpath (List.getElem?_eq_getElem hlt) hm) with ⟨l, hl⟩ | h
  · exact absurd hl (hnl l)
  · exact h

theorem path_suffix {code : List Instr} {p : List Nat} {n q d : Nat} (hhead : p[0]? = some 0)
    (hpath : IsPath code p) (hn : p[n]? = some q)
    (hnl : ∀ m, d < m → m ≤ q → ∀ l, code[m]? ≠ some (.label l)) :
    ∀ k m, m + k = q → d ≤ m → ∃ j, j + k = n ∧ p[j]? = some m
  | 0, m, hm, _ => ⟨n, rfl, by rw [hn, ← hm]; rfl⟩
  | k + 1, m, hm, hd => by
    have h1 : m + 1 + k = q ∧ d < m + 1 ∧ m + 1 ≤ q := by omega
    obtain ⟨j, hj, hget⟩ := path_suffix hhead hpath hn hnl k (m + 1) h1.1 (Nat.le_of_lt h1.2.1)
    cases j with
    | zero => rw [hhead] at hget; cases hget
    | succ j =>
      obtain ⟨a, ha, hma⟩ := path_pred hpath hget (hnl (m + 1) h1.2.1 h1.2.2)
      exact ⟨j, by omega, by rw [ha, Nat.succ.inj hma]⟩

theorem seenOf_take_def (code : List Instr) : ∀ (q r : Nat), r ∈ seenOf [] (code.take q) →
    ∃ d, d < q ∧ defAt code d = some r ∧ ∀ m, d < m → m < q → ∀ l, code[m]? ≠ some (.label l)
  | 0, _, h => nomatch h
  | q + 1, r, h => by
    -- a definition found below `q` is still good at `q + 1` if position `q` is not a label marker
    have hext : (∀ l, code[q]? ≠ some (.label l)) → r ∈ seenOf [] (code.take q) →
        ∃ d, d < q + 1 ∧ defAt code d = some r ∧ ∀ m, d < m → m < q + 1 → ∀ l, code[m]? ≠ some (.label l) := by
      intro hq h
      obtain ⟨d, hd, hdef, hnl⟩ := seenOf_take_def code q r h
      refine ⟨d, by omega, hdef, fun m hm1 hm2 l => ?_⟩
      rcases Nat.lt_succ_iff_lt_or_eq.1 hm2 with hlt | rfl
      · exact hnl m hm1 hlt l
      · exact hq l
    cases hc : code[q]? with
    | none =>
      have hlen := List.getElem?_eq_none_iff.1 hc
      rw [List.take_of_length_le (Nat.le_succ_of_le hlen), ← List.take_of_length_le hlen] at h
      exact hext (fun l => by rw [hc]; nofun) h
    | some a =>
      rw [seenOf_take_succ hc] at h
      cases hl : labelOf a with
      | some l => rw [seenStep_of_label hl] at h; cases h
      | none =>
        rw [seenStep_nonlabel hl, List.mem_append] at h
        rcases h with h | h
        · exact ⟨q, Nat.lt_succ_self q, by rw [defAt, hc]; exact Option.mem_toList.1 h, fun m h1 h2 => by omega⟩
        · exact hext (fun l e => by rw [hc] at e; cases e; cases hl) h

theorem blockLocal_paths {code : List Instr} (hb : blockLocal [] code = true) :
    ∀ (p : List Nat) (q : Nat) (ins : Instr) (r : Nat),
      p.head? = some 0 → IsPath code p → p.getLast? = some q →
      code[q]? = some ins → r ∈ usesOf ins →
      ∃ k d, k + 1 < p.length ∧ p[k]? = some d ∧ defAt code d = some r := by
  intro p q ins r hhead hpath hlast hq hr
  have hnlq : ∀ l, code[q]? ≠ some (.label l) := by
    intro l e; rw [hq] at e; cases e; cases hr
  obtain ⟨d, hdq, hdef, hnl⟩ := seenOf_take_def code q r ((blockLocal_at hb hq).1 r hr)
  have hhead' : p[0]? = some 0 := by rw [← List.head?_eq_getElem?]; exact hhead
  have hn : p[p.length - 1]? = some q := by rw [← List.getLast?_eq_getElem?]; exact hlast
  have hnl' : ∀ m, d < m → m ≤ q → ∀ l, code[m]? ≠ some (.label l) := by
    intro m hm1 hm2 l
    rcases Nat.lt_or_eq_of_le hm2 with hlt | rfl
    · exact hnl m hm1 hlt l
    · exact hnlq l
  obtain ⟨j, hj, hget⟩ := path_suffix hhead' hpath hn hnl' (q - d) d (by omega) (Nat.le_refl d)
  exact ⟨j, d, by omega, hget, hdef⟩

theorem wf_of_wfChecks {fn : Func} {P : Program} (h : wfChecks fn P = true) : WF fn P := by
  simp only [wfChecks, Bool.and_eq_true] at h
  obtain ⟨⟨⟨⟨hb, hd⟩, hl⟩, ht⟩, hc⟩ := h
  exact ⟨defsDistinct_uniqueDefs hd, labelsDistinct_uniqueLabels hl, targetsOK_targetsExist ht,
    callsOK_callsResolve hc, blockLocal_paths hb⟩

end Opt
end Nsl
