import Nsl.Proofs.OptSimRun
/-!
# The converse direction: if the optimised program terminates, so does the original (with the same outcome)

`run_term`: removed instructions are stuttering steps of the optimised side; they cannot go on forever because each
one advances the original `pc` (inner induction on the distance to the end of the code).  Together with the forward
simulation and fuel monotonicity this gives equal outcomes.
-/
namespace Nsl
namespace Opt
open VM WF

section
variable {decide : Option Instr → Instr → Subst → Option (Nat × Opd)}

theorem term_end (P : Program) (fn : Func) {pc : Nat} (fr : Frame) (g : Globals) (hc : fn.code[pc]? = none) :
    ∃ F, run P F fn pc fr g ≠ .fail .timeout :=
  ⟨1, by rw [run_succ, stepI_none hc]; nofun⟩

theorem callD_term_of (P : Program) (n : Nat)
    (ih : ∀ fn ∈ P.funcs, ∀ (args : List Val) (g : Globals),
      run (passProgram decide P) n (passFn decide fn) 0 { args := args } g ≠ .fail .timeout →
      ∃ F, run P F fn 0 { args := args } g ≠ .fail .timeout)
    (name : String) (args : List Val) (g : Globals)
    (h : callD (passProgram decide P) n name args g ≠ .fail .timeout) :
    ∃ F, callD P F name args g ≠ .fail .timeout := by
  cases hf : P.find name with
  | none => exact ⟨0, by rw [callD_none hf]; nofun⟩
  | some callee =>
    rw [callD_some (by rw [find_passProgram, hf]; rfl)] at h
    obtain ⟨F, hF⟩ := ih callee (List.mem_of_find?_eq_some hf) args g h
    exact ⟨F, by rw [callD_some hf]; exact hF⟩

theorem run_term (hdef : DecideDef decide) (P : Program) (hOK : ∀ f ∈ P.funcs, FnOK decide f.code) :
    ∀ (n : Nat) (fn : Func), fn ∈ P.funcs →
      ∀ (m pc : Nat) (fr fr' : Frame) (g : Globals), fn.code.length - pc ≤ m →
      Inv fn.code (finalSubst decide fn.code) pc fr fr' g →
      run (passProgram decide P) n (passFn decide fn) (kpos decide fn.code pc) fr' g ≠ .fail .timeout →
      ∃ F, run P F fn pc fr g ≠ .fail .timeout := by
  intro n
  induction n with
  | zero => intro fn _ m pc fr fr' g _ _ hne; rw [run_zero] at hne; exact absurd rfl hne
  | succ n ihn =>
    intro fn hfn m
    have hok := hOK fn hfn
    induction m with
    | zero =>
      intro pc fr fr' g hm _ _
      exact term_end P fn fr g (List.getElem?_eq_none_iff.2 (by omega))
    | succ m ihm =>
      intro pc fr fr' g hm hinv hne'
      cases hc : fn.code[pc]? with
      | none => exact term_end P fn fr g hc
      | some ins =>
        have hlt : pc < fn.code.length := (List.getElem?_eq_some_iff.1 hc).1
        cases hd : decideAt decide fn.code pc ins with
        | some p =>
          obtain ⟨d, o⟩ := p
          obtain ⟨hk, x, hstep, hinv'⟩ := sim_removed hdef hok hc hd hinv
          obtain ⟨F, hF⟩ := ihm (pc + 1) (setReg fr d x) fr' g (by omega) hinv' (by rw [hk]; exact hne')
          exact ⟨F + 1, by rw [run_succ, hstep (callD P F)]; exact hF⟩
        | none =>
          obtain ⟨hcode', hsim⟩ := sim_kept hdef hok hc hd hinv
          rw [run_succ, passFn_code] at hne'
          have hst'ne : stepI (callD (passProgram decide P) n) (pass decide fn.code) (kpos decide fn.code pc) fr' g
              ≠ .fail .timeout := by
            intro h; rw [h] at hne'; exact hne' rfl
          by_cases hex : ∃ D, stepI (callD P D) fn.code pc fr g ≠ .fail .timeout
          · -- the original step finishes with some budget `D`: compare the two steps at budget `max D n`
            obtain ⟨D, hD⟩ := hex
            have hsim := hsim (callD_sim hdef P hOK (max D n))
            rw [stepI_callRel (callD_callRel P (Nat.le_max_left D n)) hD,
              stepI_callRel (callD_callRel (passProgram decide P) (Nat.le_max_right D n)) hst'ne] at hsim
            cases hst : stepI (callD P D) fn.code pc fr g with
            | next p1 fr1 g1 =>
              rw [hst] at hsim
              obtain ⟨fr1', hst', hinv1⟩ := hsim
              rw [hst'] at hne'
              obtain ⟨F, hF⟩ := ihn fn hfn fn.code.length p1 fr1 fr1' g1 (Nat.sub_le _ _) hinv1 hne'
              refine ⟨max F D + 1, ?_⟩
              rw [run_succ, stepI_callRel (callD_callRel P (Nat.le_max_right F D)) hD, hst]
              simp only
              rw [run_mono_ne P F _ _ _ _ hF _ (Nat.le_max_left F D)]
              exact hF
            | ret v g1 as => exact ⟨D + 1, by rw [run_succ, hst]; nofun⟩
            | fail e => exact ⟨D + 1, by rw [run_succ, hst]; intro h; cases h; exact hD hst⟩
          · -- the original step times out with every budget: it is a call, and the callee terminates after all
            have hall : ∀ D, stepI (callD P D) fn.code pc fr g = .fail .timeout :=
              fun D => Classical.byContradiction fun h => hex ⟨D, h⟩
            have hsim := hsim (callD_sim hdef P hOK n)
            rw [hall n] at hsim
            rcases hsim with ⟨_, d, ty, f, args, vs, rfl, hvs, hvs', _⟩ | hst'
            · obtain ⟨F, hF⟩ := callD_term_of P n
                (fun callee hmem args g0 h => ihn callee hmem callee.code.length 0 _ _ g0 (Nat.sub_le _ _)
                  (inv_entry _ _ _ _) h)
                f vs g (fun h => hst'ne ((step_call_timeout hcode' hvs').2 h))
              exact absurd ((step_call_timeout hc hvs).1 (hall F)) hF
            · exact absurd hst' hst'ne

/-- One pass, invocation level: an outcome of the optimised program other than `timeout` is the outcome of the
original program for some budget. -/
theorem pass_invoke_conv (hdef : DecideDef decide) (P : Program) (hOK : ∀ f ∈ P.funcs, FnOK decide f.code) (n : Nat)
    (name : String) (args : List Val) (g : Globals)
    (hne : invoke (passProgram decide P) n name args g ≠ .fail .timeout) :
    ∃ F, invoke P F name args g = invoke (passProgram decide P) n name args g := by
  rw [invoke_eq_callD] at hne
  obtain ⟨F, hF⟩ : ∃ F, callD P F name args g ≠ .fail .timeout :=
    callD_term_of P n
      (fun fn hmem args g0 h => run_term hdef P hOK n fn hmem fn.code.length 0 _ _ g0 (Nat.sub_le _ _)
        (inv_entry _ _ _ _) h)
      name args g hne
  rw [← invoke_eq_callD] at hne hF
  refine ⟨F, ?_⟩
  have hfwd := pass_invoke_sim hdef P hOK F name args g hF
  -- both optimised runs agree at the larger budget
  have h1 := invoke_mono_ne (passProgram decide P) name args g F (max F n) (Nat.le_max_left _ _) (by rw [hfwd]; exact hF)
  have h2 := invoke_mono_ne (passProgram decide P) name args g n (max F n) (Nat.le_max_right _ _) hne
  rw [← h2, h1, hfwd]

end

end Opt
end Nsl
