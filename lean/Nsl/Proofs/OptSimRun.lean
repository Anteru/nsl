import Nsl.Proofs.OptSimBase
import Nsl.Proofs.OptSimKept
/-!
# The global simulation for one pass (`pass decide`), generic in `decide`

An original state `(pc, fr, g)` is related to the optimised state `(kpos pc, fr', g)` by `Inv`.  The instruction at
`pc` is either removed, and executing it re-establishes the invariant at `pc + 1` against the *same* optimised state
(`sim_removed`), or kept, and both sides step to related outcomes (`sim_kept`).  `run_sim` is the fuel bookkeeping
around the two; a pass has to provide `FnOK`.
-/
namespace Nsl
namespace Opt
open VM WF

def RegsOK (σf : Subst) (seen : List Nat) (fr fr' : Frame) : Prop :=
  ∀ r ∈ seen, ∃ x, Map.get fr.regs r = some x ∧ evalOpd fr' (substOpd σf (.ref r)) = .ok x ∧
    ∀ s, substOpd σf (.ref r) = .ref s → s ∈ seen

/-- The invariant inside a block.  The second conjunct serves the load-after-store pass alone (`las_removedSound`);
every kept store establishes it whatever the pass, so the generic invariant carries it. -/
def InvBody (code : List Instr) (σf : Subst) (pc : Nat) (fr fr' : Frame) (g : Globals) : Prop :=
  RegsOK σf (seenOf [] (code.take pc)) fr fr' ∧
  (∀ sc var src, lastOr none (code.take pc) = some (.store sc var src) →
      (∃ root v, rootOf sc var = .ok root ∧ readRoot fr g root = .ok v ∧ evalOpd fr src = .ok v) ∧
        ∀ s, src = .ref s → s ∈ seenOf [] (code.take pc))

/-- At a block start (a label) only locals and arguments are related: registers do not cross blocks. -/
def Inv (code : List Instr) (σf : Subst) (pc : Nat) (fr fr' : Frame) (g : Globals) : Prop :=
  fr'.locals = fr.locals ∧ fr'.args = fr.args ∧
    ((∃ l, code[pc]? = some (.label l)) ∨ InvBody code σf pc fr fr' g)

/-- What a pass must guarantee about an instruction it removes: under the invariant it succeeds, only defines its
reference, and the operand the reference is rewired to has the same value. -/
def RemovedSound (decide : Option Instr → Instr → Subst → Option (Nat × Opd)) (code : List Instr) : Prop :=
  ∀ (pc : Nat) (ins : Instr) (d : Nat) (o : Opd), code[pc]? = some ins →
    decideAt decide code pc ins = some (d, o) →
    ∀ (fr fr' : Frame) (g : Globals),
      fr'.locals = fr.locals → fr'.args = fr.args → InvBody code (finalSubst decide code) pc fr fr' g →
      ∃ x, (∀ cf : String → List Val → Globals → Res, stepI cf code pc fr g = .next (pc + 1) (setReg fr d x) g) ∧
        evalOpd fr' o = .ok x ∧ ∀ s, o = .ref s → s ∈ seenOf [] (code.take pc)

structure FnOK (decide : Option Instr → Instr → Subst → Option (Nat × Opd)) (code : List Instr) : Prop where
  bl : blockLocal [] code = true
  nd : (defs code).Nodup
  rs : RemovedSound decide code

section
variable {code : List Instr} {σf : Subst} {pc : Nat} {ins : Instr} {fr fr' fr1 fr1' : Frame} {g : Globals}

theorem regsOK_congr {seen : List Nat} (h : RegsOK σf seen fr fr') (h1 : fr1.regs = fr.regs)
    (h2 : fr1'.regs = fr'.regs) : RegsOK σf seen fr1 fr1' := by
  intro r hr
  obtain ⟨y, hy, hey, hry⟩ := h r hr
  exact ⟨y, by rw [h1]; exact hy, by rw [evalOpd_regs h2]; exact hey, hry⟩

theorem regsOK_cons {seen : List Nat} {d : Nat} {x : Val} (h : RegsOK σf seen fr fr') (hfresh : d ∉ seen)
    (hreg : fr1.regs = Map.set fr.regs d x)
    (hd : evalOpd fr1' (substOpd σf (.ref d)) = .ok x ∧ ∀ s, substOpd σf (.ref d) = .ref s → s ∈ d :: seen)
    (hold : ∀ r ∈ seen, evalOpd fr1' (substOpd σf (.ref r)) = evalOpd fr' (substOpd σf (.ref r))) :
    RegsOK σf (d :: seen) fr1 fr1' := by
  intro r hr
  rcases List.mem_cons.1 hr with rfl | hr'
  · exact ⟨x, by rw [hreg, Map.get_set_eq], hd.1, hd.2⟩
  · obtain ⟨y, hy, hey, hry⟩ := h r hr'
    refine ⟨y, ?_, by rw [hold r hr']; exact hey, fun s hs => List.mem_cons_of_mem _ (hry s hs)⟩
    rw [hreg, Map.get_set_ne _ _ _ _ (fun (e : d = r) => hfresh (e ▸ hr'))]
    exact hy

theorem invBody_of_inv (hinv : Inv code σf pc fr fr' g) (hc : code[pc]? = some ins) (hnl : labelOf ins = none) :
    InvBody code σf pc fr fr' g := by
  rcases hinv.2.2 with ⟨l, hl⟩ | hb
  · rw [hc] at hl; cases hl; cases hnl
  · exact hb

theorem ops_eval (hbl : blockLocal [] code = true) (hinv : Inv code σf pc fr fr' g) (hc : code[pc]? = some ins) :
    ∀ o ∈ opsOf ins, evalOpd fr' (substOpd σf o) = evalOpd fr o := by
  intro o ho
  cases o with
  | ref r =>
    have hr := mem_usesOf.2 ho
    obtain ⟨y, hy, hey, _⟩ :=
      (invBody_of_inv hinv hc (labelOf_of_uses hr)).1 r ((blockLocal_at hbl hc).1 r hr)
    rw [hey, evalOpd, hy]
  | cInt i => rfl
  | cFlt f => rfl

theorem inv_after_removed {d : Nat} {o : Opd} {x : Val}
    (hc : code[pc]? = some ins) (hL : fr'.locals = fr.locals) (hA : fr'.args = fr.args)
    (hb : InvBody code σf pc fr fr' g) (hd : defOf ins = some d) (hget : Map.get σf d = some o)
    (hev : evalOpd fr' o = .ok x) (hrefs : ∀ s, o = .ref s → s ∈ seenOf [] (code.take pc))
    (hfresh : d ∉ seenOf [] (code.take pc)) :
    Inv code σf (pc + 1) (setReg fr d x) fr' g := by
  refine ⟨hL, hA, Or.inr ⟨?_, ?_⟩⟩
  · rw [seenOf_take_succ hc, seenStep_nonlabel (labelOf_of_defOf hd), hd]
    exact regsOK_cons hb.1 hfresh rfl
      ⟨by rw [substOpd_ref_some hget]; exact hev,
        fun s hs => List.mem_cons_of_mem _ (hrefs s (by rwa [substOpd_ref_some hget] at hs))⟩
      (fun _ _ => rfl)
  · intro sc var src hl
    rw [lastOr_take_succ hc] at hl
    cases hl
    cases hd

theorem inv_after_kept {cf : String → List Val → Globals → Res} {g1 : Globals} {p1 : Nat}
    (hbl : blockLocal [] code = true) (hc : code[pc]? = some ins) (hinv : Inv code σf pc fr fr' g)
    (hσ : ∀ d, defOf ins = some d → Map.get σf d = none)
    (hst : stepI cf code pc fr g = .next p1 fr1 g1)
    (hnr : NextRel ins fr fr' fr1 fr1') (hp : p1 = pc + 1 ∨ ∃ l, labelPos code l = some p1) :
    Inv code σf p1 fr1 fr1' g1 := by
  obtain ⟨hL1, hA1, hregs⟩ := hnr
  refine ⟨hL1, hA1, ?_⟩
  rcases hp with rfl | ⟨l, hl⟩
  rotate_left
  · exact Or.inl ⟨l, labelPos_some hl⟩
  right
  cases hlab : labelOf ins with
  | some l =>
    constructor
    · rw [seenOf_take_succ hc, seenStep_of_label hlab]; exact fun _ h => nomatch h
    · intro sc var src hl; rw [lastOr_take_succ hc] at hl; cases hl; cases hlab
  | none =>
    have hb := invBody_of_inv hinv hc hlab
    obtain ⟨huse, hfresh⟩ := blockLocal_at hbl hc
    constructor
    · rw [seenOf_take_succ hc, seenStep_nonlabel hlab]
      cases hd : defOf ins with
      | none =>
        rw [hd] at hregs
        exact regsOK_congr hb.1 hregs.1 hregs.2
      | some d =>
        rw [hd] at hregs
        obtain ⟨x, hr1, hr1'⟩ := hregs
        have hget := substOpd_ref_none (hσ d hd)
        refine regsOK_cons hb.1 (hfresh d hd) hr1
          ⟨by rw [hget, evalOpd, hr1', Map.get_set_eq], fun s hs => ?_⟩ fun r hr => ?_
        · rw [hget] at hs; cases hs; exact List.mem_cons_self
        · obtain ⟨_, _, _, hry⟩ := hb.1 r hr
          exact evalOpd_set_ne hr1' _ fun s hs e => hfresh d hd (e ▸ hry s hs)
    · intro sc var src hl
      rw [lastOr_take_succ hc] at hl
      cases hl
      -- the instruction at `pc` is this store: the variable now holds the value of the stored operand
      obtain ⟨root, v, _, _, hroot, hv, _, hw, hout⟩ := step_store_inv hc hst nofun
      cases hout
      refine ⟨⟨root, v, hroot, readRoot_writeRoot hw, by rw [evalOpd_regs (writeRoot_regs hw)]; exact hv⟩,
        fun s hs => ?_⟩
      rw [seenOf_take_succ hc]
      exact huse s (mem_usesOf.2 (hs ▸ List.mem_singleton_self _))

theorem inv_entry (code : List Instr) (σf : Subst) (fr : Frame) (g : Globals) : Inv code σf 0 fr fr g :=
  ⟨rfl, rfl, Or.inr ⟨(fun _ h => nomatch h), fun _ _ _ hl => nomatch hl⟩⟩

end

section
variable {decide : Option Instr → Instr → Subst → Option (Nat × Opd)} {code : List Instr} {pc : Nat} {ins : Instr}
  {fr fr' : Frame} {g : Globals}

/-- `OutRel` with the invariant re-established at the successor. -/
def SimRel (decide : Option Instr → Instr → Subst → Option (Nat × Opd)) (code : List Instr)
    (cf : String → List Val → Globals → Res) (ins : Instr) (fr fr' : Frame) (g : Globals) : StepOut → StepOut → Prop
  | .next p1 fr1 g1, o' => ∃ fr1', o' = .next (kpos decide code p1) fr1' g1 ∧
      Inv code (finalSubst decide code) p1 fr1 fr1' g1
  | .ret v g1 as, o' => o' = .ret v g1 as
  | .fail e, o' => (e = .timeout ∧ CallTimeout cf (finalSubst decide code) ins fr fr' g) ∨ o' = .fail e

theorem sim_removed (hdef : DecideDef decide) (hok : FnOK decide code) (hc : code[pc]? = some ins)
    {d : Nat} {o : Opd} (hd : decideAt decide code pc ins = some (d, o))
    (hinv : Inv code (finalSubst decide code) pc fr fr' g) :
    kpos decide code (pc + 1) = kpos decide code pc ∧
      ∃ x, (∀ cf, stepI cf code pc fr g = .next (pc + 1) (setReg fr d x) g) ∧
        Inv code (finalSubst decide code) (pc + 1) (setReg fr d x) fr' g := by
  obtain ⟨hk, hget⟩ := removed_at hdef hok.nd hc hd
  have hdd := hdef _ _ _ _ _ hd
  have hb := invBody_of_inv hinv hc (labelOf_of_defOf hdd)
  obtain ⟨x, hstep, hev, hrefs⟩ := hok.rs pc ins d o hc hd fr fr' g hinv.1 hinv.2.1 hb
  exact ⟨hk, x, hstep,
    inv_after_removed hc hinv.1 hinv.2.1 hb hdd hget hev hrefs ((blockLocal_at hok.bl hc).2 d hdd)⟩

theorem sim_kept (hdef : DecideDef decide) (hok : FnOK decide code) (hc : code[pc]? = some ins) (hd : decideAt decide code pc ins = none)
    (hinv : Inv code (finalSubst decide code) pc fr fr' g) :
    (pass decide code)[kpos decide code pc]? = some (substInstr (finalSubst decide code) ins) ∧
      ∀ {cf cf' : String → List Val → Globals → Res}, CallRel cf cf' →
        SimRel decide code cf ins fr fr' g (stepI cf code pc fr g)
          (stepI cf' (pass decide code) (kpos decide code pc) fr' g) := by
  obtain ⟨hcode', hk, hσ⟩ := kept_at hdef hok.nd hc hd
  refine ⟨hcode', fun {cf cf'} hcf => ?_⟩
  have hsim := stepI_sim_kept hcf (pass_labelPos hdef code) hc hcode' hk hinv.1 hinv.2.1 (ops_eval hok.bl hinv hc) g
  cases hst : stepI cf code pc fr g with
  | next p1 fr1 g1 =>
    rw [hst] at hsim
    obtain ⟨fr1', hst', hnr, hp⟩ := hsim
    exact ⟨fr1', hst', inv_after_kept hok.bl hc hinv hσ hst hnr hp⟩
  | ret v g1 as => rw [hst] at hsim; exact hsim
  | fail e => rw [hst] at hsim; exact hsim

end

section
variable {decide : Option Instr → Instr → Subst → Option (Nat × Opd)}

theorem callD_sim_of (P : Program) (D : Nat)
    (ih : ∀ fn ∈ P.funcs, ∀ (args : List Val) (g : Globals), run P D fn 0 { args := args } g ≠ .fail .timeout →
      run (passProgram decide P) D (passFn decide fn) 0 { args := args } g = run P D fn 0 { args := args } g) :
    CallRel (callD P D) (callD (passProgram decide P) D) := by
  intro name args g hne
  cases hf : P.find name with
  | none => rw [callD_none hf, callD_none (by rw [find_passProgram, hf]; rfl)]
  | some callee =>
    rw [callD_some hf] at hne ⊢
    rw [callD_some (by rw [find_passProgram, hf]; rfl)]
    exact ih callee (List.mem_of_find?_eq_some hf) args g hne

theorem run_sim (hdef : DecideDef decide) (P : Program) (hOK : ∀ f ∈ P.funcs, FnOK decide f.code) :
    ∀ (fuel : Nat) (fn : Func), fn ∈ P.funcs → ∀ (pc : Nat) (fr fr' : Frame) (g : Globals),
      Inv fn.code (finalSubst decide fn.code) pc fr fr' g → run P fuel fn pc fr g ≠ .fail .timeout →
      run (passProgram decide P) fuel (passFn decide fn) (kpos decide fn.code pc) fr' g = run P fuel fn pc fr g := by
  intro fuel
  induction fuel with
  | zero => intro fn _ pc fr fr' g _ hne; rw [run_zero] at hne; exact absurd rfl hne
  | succ fuel ih =>
    intro fn hfn pc fr fr' g hinv hne
    have hok := hOK fn hfn
    have hcr : CallRel (callD P fuel) (callD (passProgram decide P) fuel) :=
      callD_sim_of P fuel fun callee hmem args g0 => ih callee hmem 0 _ _ g0 (inv_entry _ _ _ _)
    rw [run_succ] at hne
    rw [run_succ P fuel fn pc fr g]
    cases hc : fn.code[pc]? with
    | none =>
      rw [stepI_none hc, run_succ, passFn_code, stepI_none (end_at hc), hinv.2.1]
    | some ins =>
      cases hd : decideAt decide fn.code pc ins with
      | some p =>
        obtain ⟨d, o⟩ := p
        obtain ⟨hk, x, hstep, hinv'⟩ := sim_removed hdef hok hc hd hinv
        simp only [hstep (callD P fuel)] at hne ⊢
        -- only the original steps: the optimised run equals the original's rest at `fuel` (`ih'`), hence at `fuel + 1`
        have ih' := ih fn hfn (pc + 1) _ fr' g hinv' hne
        rw [hk] at ih'
        rw [← ih']
        exact run_mono_ne _ _ _ _ _ _ (by rw [ih']; exact hne) _ (Nat.le_succ _)
      | none =>
        have hsim := (sim_kept hdef hok hc hd hinv).2 hcr
        rw [run_succ, passFn_code]
        cases hst : stepI (callD P fuel) fn.code pc fr g with
        | next p1 fr1 g1 =>
          rw [hst] at hsim hne
          obtain ⟨fr1', hst', hinv1⟩ := hsim
          rw [hst']
          exact ih fn hfn p1 fr1 fr1' g1 hinv1 hne
        | ret v g1 as =>
          rw [hst] at hsim
          rw [show stepI _ _ _ _ _ = _ from hsim]
        | fail e =>
          rw [hst] at hsim hne
          rcases hsim with ⟨rfl, _⟩ | hst'
          · exact absurd rfl hne
          · rw [hst']

theorem callD_sim (hdef : DecideDef decide) (P : Program) (hOK : ∀ f ∈ P.funcs, FnOK decide f.code) (D : Nat) :
    CallRel (callD P D) (callD (passProgram decide P) D) :=
  callD_sim_of P D fun fn hfn args g => run_sim hdef P hOK D fn hfn 0 _ _ g (inv_entry _ _ _ _)

theorem pass_invoke_sim (hdef : DecideDef decide) (P : Program) (hOK : ∀ f ∈ P.funcs, FnOK decide f.code) (fuel : Nat)
    (name : String) (args : List Val) (g : Globals) (hne : invoke P fuel name args g ≠ .fail .timeout) :
    invoke (passProgram decide P) fuel name args g = invoke P fuel name args g := by
  rw [invoke_eq_callD] at hne ⊢
  rw [invoke_eq_callD]
  exact callD_sim hdef P hOK fuel name args g hne

end

end Opt
end Nsl
