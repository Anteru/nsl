import Nsl.Model.VM
/-!
# The scalar operations of the VM: what they return and how they fail

`scalarBin` and `castScalar` are nested matches: each is walked through once, leaf by leaf (`scalarBin_spec`,
`castScalar_spec`), and the facts used elsewhere are read off.
-/
namespace Nsl
open VM

def Err.isInternal : Err → Bool
  | .internal _ => true
  | _ => false

def Val.isNum : Val → Bool
  | .int _ => true
  | .flt _ => true
  | _ => false

def Sound {α : Type} (P : α → Prop) (E : Err → Prop) : Except Err α → Prop
  | .ok a => P a
  | .error e => E e

namespace Sound
variable {α β : Type} {P P' : α → Prop} {Q : β → Prop} {E E' : Err → Prop} {x : Except Err α}

theorem pure {a : α} (h : P a) : Sound P E (.ok a) := h
theorem throw {e : Err} (h : E e) : Sound P E (.error e : Except Err α) := h

theorem elim_ok {a : α} (h : Sound P E x) (hx : x = .ok a) : P a := by subst hx; exact h
theorem elim_error {e : Err} (h : Sound P E x) (hx : x = .error e) : E e := by subst hx; exact h

theorem mono (h : Sound P E x) (hP : ∀ a, P a → P' a) (hE : ∀ e, E e → E' e) : Sound P' E' x := by
  cases x with
  | ok a => exact hP a h
  | error e => exact hE e h

theorem mono_err (h : Sound P E x) (hE : ∀ e, E e → E' e) : Sound P E' x := h.mono (fun _ ha => ha) hE

theorem bind {k : α → Except Err β} (h : Sound P E x) (hk : ∀ a, P a → Sound Q E (k a)) : Sound Q E (x >>= k) := by
  cases x with
  | ok a => exact hk a h
  | error e => exact h

end Sound

theorem Val.isNum_iff {v : Val} : v.isNum = true ↔ (∃ i, v = .int i) ∨ ∃ f, v = .flt f := by
  cases v <;> simp [Val.isNum]

theorem Val.toFloat?_of_isNum {v : Val} (h : v.isNum = true) : ∃ x, v.toFloat? = some x := by
  cases v with
  | int i => exact ⟨_, rfl⟩
  | flt f => exact ⟨_, rfl⟩
  | _ => cases h

section
variable {o : SOp} {it : Bool} {a b z : Val} {e : Err}

/-- A result is an int, or a float that comes from true division or from `+ - *` on operands that are not both ints;
only on a non-number is a failure internal. -/
theorem scalarBin_spec (o : SOp) (it : Bool) (a b : Val) :
    Sound (fun z => (∃ i, z = .int i) ∨ ((∃ f, z = .flt f) ∧
        ((o = .div ∧ it = false) ∨ ((o = .add ∨ o = .sub ∨ o = .mul) ∧ ¬ ∃ x y, a = .int x ∧ b = .int y))))
      (fun e => e.isInternal = true → ¬ (a.isNum = true ∧ b.isNum = true)) (scalarBin o it a b) := by
  have nonNum : (∀ x y, a.toFloat? = some x → b.toFloat? = some y → False) → ¬ (a.isNum = true ∧ b.isNum = true) :=
    fun h ⟨ha, hb⟩ => (Val.toFloat?_of_isNum ha).elim fun x hx => (Val.toFloat?_of_isNum hb).elim fun y hy => h x y hx hy
  unfold scalarBin
  split
  -- `&&`, `||`
  · exact .pure (.inl ⟨_, rfl⟩)
  · exact .pure (.inl ⟨_, rfl⟩)
  -- `/`: truncating on two ints if the instruction is int-typed, true division otherwise
  · split
    · split
      · split
        · exact .throw nofun
        · exact .pure (.inl ⟨_, rfl⟩)
      · exact .throw nofun
    · rename_i hit
      split
      · split
        · exact .throw nofun
        · exact .pure (.inr ⟨⟨_, rfl⟩, .inl ⟨rfl, Bool.eq_false_iff.2 hit⟩⟩)
      · rename_i h; exact .throw fun _ => nonNum h
  -- the other operators: on two ints, else on two floats
  · split
    · split
      · exact .pure (.inl ⟨_, rfl⟩)
      · exact .pure (.inl ⟨_, rfl⟩)
      · exact .pure (.inl ⟨_, rfl⟩)
      · split
        · exact .throw nofun
        · exact .pure (.inl ⟨_, rfl⟩)
      · exact .pure (.inl ⟨_, rfl⟩)
    · rename_i hab
      have hab' : ¬ ∃ x y, a = .int x ∧ b = .int y := fun ⟨x, y, ha, hb⟩ => hab x y ha hb
      split
      · split
        · exact .pure (.inr ⟨⟨_, rfl⟩, .inr ⟨.inl rfl, hab'⟩⟩)
        · exact .pure (.inr ⟨⟨_, rfl⟩, .inr ⟨.inr (.inl rfl), hab'⟩⟩)
        · exact .pure (.inr ⟨⟨_, rfl⟩, .inr ⟨.inr (.inr rfl), hab'⟩⟩)
        · split <;> exact .throw nofun
        · exact .pure (.inl ⟨_, rfl⟩)
      · rename_i h; exact .throw fun _ => nonNum h

theorem scalarBin_ok_num (h : scalarBin o it a b = .ok z) : z.isNum = true :=
  Val.isNum_iff.2 (((scalarBin_spec o it a b).elim_ok h).imp_right (·.1))

theorem scalarBin_flt {f : Float} (h : scalarBin o it a b = .ok (.flt f)) :
    (o = .div ∧ it = false) ∨ ((o = .add ∨ o = .sub ∨ o = .mul) ∧ ¬ ∃ x y, a = .int x ∧ b = .int y) :=
  ((scalarBin_spec o it a b).elim_ok h).elim (fun ⟨_, hi⟩ => nomatch hi) (·.2)

theorem scalarBin_err_num (ha : a.isNum = true) (hb : b.isNum = true) (h : scalarBin o it a b = .error e) :
    e.isInternal = false :=
  Bool.eq_false_iff.2 fun hi => (scalarBin_spec o it a b).elim_error h hi ⟨ha, hb⟩

end

theorem scalarBin_cmp {o : SOp} (ho : o.isCmp = true) (it : Bool) (x y : Val) :
    scalarBin o it x y =
      match x, y with
      | .int a, .int b => .ok (Val.ofBool (cmpInt o a b))
      | _, _ => match x.toFloat?, y.toFloat? with
        | some a, some b => .ok (Val.ofBool (cmpFlt o a b))
        | _, _ => .error (.internal "scalar-binop-on-non-number") := by
  cases o <;> first | rfl | cases ho

theorem floorToInt_err {f : Float} {e : Err} (h : floorToInt f = .error e) :
    (e = .internal "floor-of-nan-or-inf" ∧ (f.isNaN || f.isInf) = true) ∨ e = .unsupported "floor-of-huge-float" := by
  unfold floorToInt at h
  split at h
  · rename_i hf; cases h; exact .inl ⟨rfl, hf⟩
  · dsimp only at h
    split at h
    · cases h
    · cases h; exact .inr rfl

/-- The result has the kind asked for; a number fails to convert only where a float fails to be floored. -/
theorem castScalar_spec (s : Sc) (a : Val) :
    Sound (fun z => (∃ i, z = .int i) ∨ (s = .float ∧ ∃ f, z = .flt f))
      (fun e => a.isNum = true → s ≠ .float ∧ ∃ f, a = .flt f ∧ floorToInt f = .error e) (castScalar s a) := by
  cases a with
  | int i =>
    cases s
    · exact .pure (.inr ⟨rfl, _, rfl⟩)
    · exact .pure (.inl ⟨_, rfl⟩)
    · exact .pure (.inl ⟨_, rfl⟩)
  | flt f =>
    cases s with
    | float => exact .pure (.inr ⟨rfl, _, rfl⟩)
    | int | uint =>
      show Sound _ _ (floorToInt f >>= _)
      cases h : floorToInt f with
      | ok i => exact .pure (.inl ⟨_, rfl⟩)
      | error e => exact .throw fun _ => ⟨nofun, f, rfl, h⟩
  | _ => cases s <;> exact .throw nofun

theorem castScalar_ok_num {s : Sc} {a z : Val} (h : castScalar s a = .ok z) : z.isNum = true :=
  Val.isNum_iff.2 (((castScalar_spec s a).elim_ok h).imp_right (·.2))

theorem castScalar_err_num {s : Sc} {a : Val} {e : Err} (ha : a.isNum = true) (h : castScalar s a = .error e) :
    s ≠ .float ∧ ∃ f, a = .flt f ∧ floorToInt f = .error e :=
  (castScalar_spec s a).elim_error h ha

end Nsl
