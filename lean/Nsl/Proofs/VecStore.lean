import Nsl.Proofs.VecExpr
/-!
# Vector core: stores (`stsim_succV`): variables, elements and rows (`vecSet`/`matSet` then store back),
swizzles (store shuffle then store back)
-/
namespace Nsl
namespace Vec
open Core VM CoreSem Lower Sim

theorem stsim_succV (M : Core.Module) (n : Nat) (ihE : ESimV M n) (ihSt : StSimV M n) : StSimV M (n + 1) := by
  intro code ps Γ lhs w fr g u fr' g' h hform hok hw hf hg src k c k' q ρ hl hat hsrc hbs
  cases lhs with
  | var sc key ty =>
    simp only [okEV, Bool.and_eq_true, beq_iff_eq] at hok
    obtain ⟨root, hroot, hnp, hwr⟩ := storeTo_var_inv h
    simp only [lowerStore_var, Prod.mk.injEq] at hl
    obtain ⟨rfl, rfl⟩ := hl
    have hstep := step_store (cf := callD (lowerModule M) 0) hat.head hroot hsrc hnp (writeRoot_vf (ρ := ρ) hwr)
    obtain ⟨hf2, hg2⟩ := writeRoot_fits hok.2 hroot hw hwr hf hg
    exact ⟨ρ, Run.eff hstep, hf2, hg2⟩
  | index kd ty base idx =>
    simp only [okEV, Bool.and_eq_true] at hok
    obtain ⟨⟨hidx, hokb⟩, hoki⟩ := hok
    have hkd : kd ≠ .arr := by rintro rfl; simp [okIdx] at hidx
    have hformb : lhsForm base = true := by cases kd <;> first | exact absurd rfl hkd | exact hform
    obtain ⟨b, fr1, g1, i, fr2, g2, kk, b', h1, h2, hki, hx, h3⟩ := storeTo_index_inv hkd h
    rcases hel : lowerE base k with ⟨cb, vb, k1⟩
    rcases her : lowerE idx k1 with ⟨ci, vi, k2⟩
    rcases hes : lowerStore base (.ref k2) (k2 + 1) with ⟨cs, k3⟩
    have le1 := lowerE_mono base k cb vb k1 hel
    have le2 := lowerE_mono idx k1 ci vi k2 her
    obtain ⟨ins, rfl, rfl, hins⟩ : ∃ ins, cb ++ ci ++ [ins] ++ cs = c ∧ k3 = k' ∧
        (ins = .vecSet k2 ty vb vi src ∧ kd = .vec ∨ ins = .matSet k2 ty vb vi src ∧ kd = .mat) := by
      cases kd with
      | arr => exact absurd rfl hkd
      | vec => simp only [lowerStore, hel, her, hes, Prod.mk.injEq] at hl; exact ⟨_, hl.1, hl.2, .inl ⟨rfl, rfl⟩⟩
      | mat => simp only [lowerStore, hel, her, hes, Prod.mk.injEq] at hl; exact ⟨_, hl.1, hl.2, .inr ⟨rfl, rfl⟩⟩
    obtain ⟨ρ1, r1, e1, t1, hf1, hg1⟩ :=
      ihE h1 hokb hf hg ρ hel hat.left.left.left
    obtain ⟨ρ2, r2, e2, t2, hf2, hg2⟩ :=
      ihE h2 hoki hf1 hg1 ρ1 her hat.left.left.right
    have r12 := r1.append r2 le1
    have e1' := r2.opd e1 (lowerE_below base k cb vb k1 hel)
    have hsrc2 := r12.opd hsrc hbs
    -- `vecSet` and `matSet` are the same branch of the VM; the updated base keeps its shape
    have hkind : stepI (callD (lowerModule M) 0) code (q + (cb ++ ci).length) (vf ρ2 fr2) g2 =
        .next (q + (cb ++ ci).length + 1) (setReg (vf ρ2 fr2) k2 b') g2 ∧ fits (shape (Expr.ty base)) b' = true := by
      rcases hins with ⟨rfl, rfl⟩ | ⟨rfl, rfl⟩
      · obtain ⟨nn, hbt, hty, _⟩ := okIdx_vec hidx
        refine ⟨step_vecSet hat.left.right.head e1' (fits_noPtr t1) e2 (fits_noPtr t2) hsrc2 (fits_noPtr hw) hki hx, ?_⟩
        rw [hbt] at t1 ⊢
        exact setKey_vec t1 (by rw [← fits_atom, ← hty]; exact hw) hx
      · obtain ⟨rr, cc, hbt, hty, _⟩ := okIdx_mat hidx
        refine ⟨step_matSet hat.left.right.head e1' (fits_noPtr t1) e2 (fits_noPtr t2) hsrc2 (fits_noPtr hw) hki hx, ?_⟩
        rw [hbt] at t1 ⊢
        exact setKey_mat t1 (by rw [← fits_vec, ← hty]; exact hw) hx
    obtain ⟨ρ3, r3, hf3, hg3⟩ :=
      ihSt h3 hformb hokb hkind.2 hf2 hg2 (Map.set ρ2 k2 b') hes hat.right (evalOpd_vf_set ..) (Nat.lt_succ_self k2)
    exact ⟨ρ3, ((r12.append (Run.reg hkind.1 (Nat.le_refl k2)) (Nat.le_trans le1 le2)).append r3
      (Nat.le_succ_of_le (Nat.le_trans le1 le2))), hf3, hg3⟩
  | swizzle ty base idxs =>
    simp only [lhsForm, Bool.and_eq_true, decide_eq_true_eq] at hform
    obtain ⟨hnd, hformb⟩ := hform
    simp only [okEV, Bool.and_eq_true] at hok
    obtain ⟨⟨hvec, hswz⟩, hokb⟩ := hok
    obtain ⟨sb, nb, hbt⟩ := isVector_shape hvec
    obtain ⟨b, fr1, g1, b', h1, hx, h3⟩ := storeTo_swizzle_inv h
    rcases hel : lowerE base k with ⟨cb, vb, k1⟩
    rcases hes : lowerStore base (.ref k1) (k1 + 1) with ⟨cs, k2⟩
    have le1 := lowerE_mono base k cb vb k1 hel
    simp only [lowerStore, hel, hes, Prod.mk.injEq] at hl
    obtain ⟨rfl, rfl⟩ := hl
    obtain ⟨ρ1, r1, e1, t1, hf1, hg1⟩ :=
      ihE h1 hokb hf hg ρ hel hat.left.left
    have t1v : fits (.vec nb) b = true := by rw [hbt, shape] at t1; exact t1
    obtain ⟨hsh, tb'⟩ := swizzleStore_typed t1v hw hswz hnd hx sb
    have hc : code[q + cb.length]? = some (.shuffle k1 (.vec sb nb) vb src (storeShuffleIdx nb idxs)) := by
      have := hat.left.right.head
      simpa [hbt, vecSize] using this
    have hstep := step_shuffle (cf := callD (lowerModule M) 0) (g := g1) hc e1 (fits_noPtr t1) (r1.opd hsrc hbs)
      (fits_noPtr hw) hsh
    have tb'' : fits (shape (Expr.ty base)) b' = true := by rw [hbt, shape]; exact tb'
    obtain ⟨ρ3, r3, hf3, hg3⟩ :=
      ihSt h3 hformb hokb tb'' hf1 hg1 (Map.set ρ1 k1 b') hes hat.right (evalOpd_vf_set ..) (Nat.lt_succ_self k1)
    exact ⟨ρ3, (r1.append (Run.reg hstep (Nat.le_refl k1)) le1).append r3 (Nat.le_succ_of_le le1), hf3, hg3⟩
  | litI i => simp [lhsForm] at hform
  | litF f => simp [lhsForm] at hform
  | bin op ty l r => simp [lhsForm] at hform
  | cast ty e => simp [lhsForm] at hform
  | assign l r => simp [lhsForm] at hform
  | affix p i x => simp [lhsForm] at hform
  | call fn ty args => simp [lhsForm] at hform
  | member ty b f => simp [lhsForm] at hform
  | construct ty args => simp [lhsForm] at hform

end Vec
end Nsl
