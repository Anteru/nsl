import Nsl.Model.VM
/-!
# The VM's operations on list values

Vectors and matrix rows are lists of components; what `SHUFFLE`, `CONSTRUCT_PRIMITIVE` and element access do with them,
by unfolding.
-/
namespace Nsl
namespace VM

/-- The components of a scalar or vector as `SHUFFLE` and `CONSTRUCT_PRIMITIVE` list them. -/
def flatOf : Val → List Val
  | .list vs => vs
  | v => [v]

theorem shuffleExec_eq (ty : ITy) (a b : Val) (idx : List Nat) :
    shuffleExec ty a b idx = shuffleExec.pick (flatOf a ++ flatOf b) idx >>= fun r =>
      match ty, r with
      | .sc _, [x] => .ok x
      | _, _ => .ok (.list r) := rfl

theorem shuffleExec_vec (s : Sc) (n : Nat) (a b : Val) (idx : List Nat) :
    shuffleExec (.vec s n) a b idx = shuffleExec.pick (flatOf a ++ flatOf b) idx >>= fun r => .ok (.list r) := rfl

theorem flat_cons (v : Val) (vs : List Val) : constructExec.flat (v :: vs) = flatOf v ++ constructExec.flat vs := by
  cases v <;> rfl

theorem getKey_idx_iff {vs : List Val} {i : Nat} {x : Val} : getKey (.list vs) (.idx i) = .ok x ↔ vs[i]? = some x := by
  simp only [getKey]
  cases vs[i]? <;> simp

theorem setKey_idx_iff {vs : List Val} {i : Nat} {x b : Val} :
    setKey (.list vs) (.idx i) x = .ok b ↔ i < vs.length ∧ b = .list (vs.set i x) := by
  simp only [setKey]
  split <;> simp [*, eq_comm]

theorem indexOf_nat {vs : List Val} {n : Nat} (h : n < vs.length) : indexOf (.list vs) (.int (n : Int)) = .ok n := by
  simp [indexOf, normIndex, h]

end VM

open VM

/-- `l[i]` with a default (only used inside its bounds). -/
def nth (l : List Val) (i : Nat) : Val := l[i]?.getD default

theorem nth_lt {l : List Val} {i : Nat} (h : i < l.length) : nth l i = l[i] := by
  simp [nth, List.getElem?_eq_getElem h]

theorem nth_append_left {v w : List Val} {i : Nat} (h : i < v.length) : nth (v ++ w) i = nth v i := by
  simp [nth, List.getElem?_append_left h]

theorem pick_spec (combined : List Val) : ∀ (mask : List Nat), (∀ i ∈ mask, i < combined.length) →
    shuffleExec.pick combined mask = .ok (mask.map (nth combined)) := by
  intro mask
  induction mask with
  | nil => intro _; rfl
  | cons i rest ih =>
    intro h
    have hi : i < combined.length := h i (List.mem_cons_self ..)
    have hr := ih (fun j hj => h j (List.mem_cons_of_mem _ hj))
    simp only [shuffleExec.pick, List.getElem?_eq_getElem hi, hr, bind, Except.bind, List.map_cons, nth_lt hi]

end Nsl
