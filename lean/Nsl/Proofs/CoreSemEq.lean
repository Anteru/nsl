import Nsl.Model.CoreSem
import Nsl.Proofs.StepLemmas
import Nsl.Proofs.ExceptList
/-!
# The reference semantics, one constructor at a time

The equation of `execS` for each statement form, and what a *successful* evaluation at fuel `n + 1` of an expression,
argument list, place, store or call says about the evaluations at fuel `n` it is made of.
-/
namespace Nsl
namespace CoreSem
open Core VM

variable {M : Core.Module} {n : Nat} {fr fr' : Frame} {g g' : Globals}

theorem noPtr_ok {v v' : Val} (h : noPtr v = .ok v') : v' = v ∧ Val.isPtr v = false := by
  cases v with
  | ptr r p => cases h
  | _ => cases h; exact ⟨rfl, rfl⟩

theorem noPtr_eq {v : Val} (h : Val.isPtr v = false) : noPtr v = .ok v := by
  cases v with
  | ptr r p => cases h
  | _ => rfl

theorem evalE_zero {e : Expr} : evalE M 0 e fr g = .fail .timeout := by
  simp only [evalE]

theorem evalE_litI {i : Int} : evalE M (n + 1) (.litI i) fr g = .val (.int i) fr g := by
  simp only [evalE]

theorem evalE_litF {f : Float} : evalE M (n + 1) (.litF f) fr g = .val (.flt f) fr g := by
  simp only [evalE]

theorem evalE_var_inv {sc : Scope} {key : VarKey} {ty : ITy} {v : Val}
    (h : evalE M n (.var sc key ty) fr g = .val v fr' g') :
    ∃ root, rootOf sc key = .ok root ∧ readRoot fr g root = .ok v ∧ fr' = fr ∧ g' = g := by
  cases n with
  | zero => simp only [evalE] at h; cases h
  | succ n =>
    simp only [evalE] at h
    split at h
    · cases h
    · split at h
      · cases h
      · cases h; exact ⟨_, ‹_›, ‹_›, rfl, rfl⟩

theorem evalE_bin_inv {op : BOp} {ty : ITy} {l r : Expr} {z : Val}
    (h : evalE M (n + 1) (.bin op ty l r) fr g = .val z fr' g') :
    ∃ a fr1 g1 b, evalE M n l fr g = .val a fr1 g1 ∧ evalE M n r fr1 g1 = .val b fr' g' ∧
      binSem op ty (Expr.ty l) (Expr.ty r) a b = .ok z := by
  simp only [evalE] at h
  split at h
  · cases h
  · split at h
    · cases h
    · split at h
      · cases h
      · cases h; exact ⟨_, _, _, _, ‹_›, ‹_›, ‹_›⟩

theorem evalE_cast_inv {ty : ITy} {x : Expr} {z : Val} (h : evalE M (n + 1) (.cast ty x) fr g = .val z fr' g') :
    ∃ a, evalE M n x fr g = .val a fr' g' ∧ castExec ty a = .ok z := by
  simp only [evalE] at h
  split at h
  · cases h
  · split at h
    · cases h
    · cases h; exact ⟨_, ‹_›, ‹_›⟩

theorem evalE_assign_inv {lhs rhs : Expr} {v : Val} (h : evalE M (n + 1) (.assign lhs rhs) fr g = .val v fr' g') :
    ∃ fr1 g1 w, evalE M n rhs fr g = .val v fr1 g1 ∧ storeTo M n lhs v fr1 g1 = .val w fr' g' := by
  simp only [evalE] at h
  split at h
  · cases h
  · split at h
    · cases h
    · cases h; exact ⟨_, _, _, ‹_›, ‹_›⟩

theorem evalE_affix_inv {post inc : Bool} {x : Expr} {v : Val}
    (h : evalE M (n + 1) (.affix post inc x) fr g = .val v fr' g') :
    ∃ old fr1 g1 new w, evalE M n x fr g = .val old fr1 g1 ∧
      scalarBin (if inc then .add else .sub) (scIsInt (Expr.ty x)) old (.int 1) = .ok new ∧
      storeTo M n x new fr1 g1 = .val w fr' g' ∧ v = if post then old else new := by
  simp only [evalE] at h
  split at h
  · cases h
  · split at h
    · cases h
    · split at h
      · cases h
      · cases h; exact ⟨_, _, _, _, _, ‹_›, ‹_›, ‹_›, rfl⟩

theorem evalE_call_inv {fn : String} {ty : ITy} {args : Args} {v : Val}
    (h : evalE M (n + 1) (.call fn ty args) fr g = .val v fr' g') :
    ∃ vs g1 as, evalArgs M n args fr g = .vals vs fr' g1 ∧ callFn M n fn vs g1 = .done v g' as := by
  simp only [evalE] at h
  split at h
  · cases h
  · split at h
    · cases h
    · cases h; exact ⟨_, _, _, ‹_›, ‹_›⟩

theorem evalE_index_inv {kd : IdxKind} {ty : ITy} {base idx : Expr} {v : Val} (hk : kd ≠ .arr)
    (h : evalE M (n + 1) (.index kd ty base idx) fr g = .val v fr' g') :
    ∃ b fr1 g1 i k, evalE M n base fr g = .val b fr1 g1 ∧ evalE M n idx fr1 g1 = .val i fr' g' ∧
      indexOf b i = .ok k ∧ getKey b (.idx k) = .ok v := by
  have key : evalE M (n + 1) (.index kd ty base idx) fr g =
      match evalE M n base fr g with
      | .fail er => .fail er
      | .val b fr1 g1 =>
        match evalE M n idx fr1 g1 with
        | .fail er => .fail er
        | .val i fr2 g2 =>
          match (do let k ← indexOf b i; getKey b (.idx k)) with
          | .error er => .fail er
          | .ok v => .val v fr2 g2 := by
    cases kd with
    | arr => exact absurd rfl hk
    | _ => simp only [evalE]; rfl
  rw [key] at h
  split at h
  · cases h
  · split at h
    · cases h
    · split at h
      · cases h
      · rename_i hb
        cases h
        obtain ⟨k, hk, hx⟩ := bind_ok hb
        exact ⟨_, _, _, _, k, ‹_›, ‹_›, hk, hx⟩

theorem evalE_place_inv {e : Expr} {v : Val}
    (he : (∃ ty b i, e = .index .arr ty b i) ∨ (∃ ty b f, e = .member ty b f))
    (h : evalE M (n + 1) e fr g = .val v fr' g') :
    ∃ r p root, evalPlace M n e fr g = .place r p fr' g' ∧ readRoot fr' g' r = .ok root ∧ getPath root p = .ok v := by
  have key : evalE M (n + 1) e fr g =
      match evalPlace M n e fr g with
      | .fail er => .fail er
      | .place r p fr1 g1 =>
        match (do let root ← readRoot fr1 g1 r; getPath root p) with
        | .error er => .fail er
        | .ok v => .val v fr1 g1 := by
    rcases he with ⟨ty, b, i, rfl⟩ | ⟨ty, b, f, rfl⟩ <;> simp only [evalE] <;> rfl
  rw [key] at h
  split at h
  · cases h
  · split at h
    · cases h
    · rename_i hb
      cases h
      obtain ⟨root, hr, hp⟩ := bind_ok hb
      exact ⟨_, _, root, ‹_›, hr, hp⟩

theorem evalE_swizzle_inv {ty : ITy} {base : Expr} {idxs : List Nat} {v : Val}
    (h : evalE M (n + 1) (.swizzle ty base idxs) fr g = .val v fr' g') :
    ∃ b, evalE M n base fr g = .val b fr' g' ∧ shuffleExec ty b b idxs = .ok v := by
  simp only [evalE] at h
  split at h
  · cases h
  · split at h
    · cases h
    · cases h; exact ⟨_, ‹_›, ‹_›⟩

theorem evalE_construct_inv {ty : ITy} {args : Args} {v : Val}
    (h : evalE M (n + 1) (.construct ty args) fr g = .val v fr' g') :
    ∃ vs, evalArgs M n args fr g = .vals vs fr' g' ∧ constructExec ty vs = .ok v := by
  simp only [evalE] at h
  split at h
  · cases h
  · split at h
    · cases h
    · cases h; exact ⟨_, ‹_›, ‹_›⟩

theorem evalArgs_zero {as : Args} : evalArgs M 0 as fr g = .fail .timeout := by
  simp only [evalArgs]

theorem evalArgs_nil : evalArgs M (n + 1) .nil fr g = .vals [] fr g := by
  simp only [evalArgs]

theorem evalArgs_cons_inv {e : Expr} {rest : Args} {vs : List Val}
    (h : evalArgs M (n + 1) (.cons e rest) fr g = .vals vs fr' g') :
    ∃ a fr1 g1 ws, evalE M n e fr g = .val a fr1 g1 ∧ evalArgs M n rest fr1 g1 = .vals ws fr' g' ∧ vs = a :: ws := by
  simp only [evalArgs] at h
  split at h
  · cases h
  · split at h
    · cases h
    · cases h; exact ⟨_, _, _, _, ‹_›, ‹_›, rfl⟩

theorem evalPlace_zero {e : Expr} : evalPlace M 0 e fr g = .fail .timeout := by
  simp only [evalPlace]

theorem evalPlace_var_inv {sc : Scope} {key : VarKey} {ty : ITy} {r : Root} {p : List Key}
    (h : evalPlace M (n + 1) (.var sc key ty) fr g = .place r p fr' g') :
    rootOf sc key = .ok r ∧ p = [] ∧ fr' = fr ∧ g' = g := by
  simp only [evalPlace] at h
  split at h
  · cases h
  · cases h; exact ⟨‹_›, rfl, rfl, rfl⟩

theorem evalPlace_index_inv {ty : ITy} {base idx : Expr} {r : Root} {p' : List Key}
    (h : evalPlace M (n + 1) (.index .arr ty base idx) fr g = .place r p' fr' g') :
    ∃ p fr1 g1 i root c k, evalPlace M n base fr g = .place r p fr1 g1 ∧ evalE M n idx fr1 g1 = .val i fr' g' ∧
      readRoot fr' g' r = .ok root ∧ getPath root p = .ok c ∧ indexOf c i = .ok k ∧ p' = p ++ [.idx k] := by
  simp only [evalPlace] at h
  split at h
  · cases h
  · split at h
    · cases h
    · split at h
      · cases h
      · rename_i hb
        cases h
        obtain ⟨root, hr, hb⟩ := bind_ok hb
        obtain ⟨c, hp, hk⟩ := bind_ok hb
        exact ⟨_, _, _, _, root, c, _, ‹_›, ‹_›, hr, hp, hk, rfl⟩

theorem evalPlace_member_inv {ty : ITy} {base : Expr} {f : String} {r : Root} {p' : List Key}
    (h : evalPlace M (n + 1) (.member ty base f) fr g = .place r p' fr' g') :
    ∃ p, evalPlace M n base fr g = .place r p fr' g' ∧ p' = p ++ [.fld f] := by
  simp only [evalPlace] at h
  split at h
  · cases h
  · cases h; exact ⟨_, ‹_›, rfl⟩

theorem storeTo_zero {lhs : Expr} {v : Val} : storeTo M 0 lhs v fr g = .fail .timeout := by
  simp only [storeTo]

theorem storeTo_var_inv {sc : Scope} {key : VarKey} {ty : ITy} {v w : Val}
    (h : storeTo M n (.var sc key ty) v fr g = .val w fr' g') :
    ∃ root, rootOf sc key = .ok root ∧ Val.isPtr v = false ∧ writeRoot fr g root v = .ok (fr', g') := by
  cases n with
  | zero => simp only [storeTo] at h; cases h
  | succ n =>
    simp only [storeTo] at h
    split at h
    · cases h
    · rename_i hb
      cases h
      obtain ⟨root, hroot, hb⟩ := bind_ok hb
      obtain ⟨v', hp, hw⟩ := bind_ok hb
      obtain ⟨rfl, hnp⟩ := noPtr_ok hp
      exact ⟨root, hroot, hnp, hw⟩

theorem storeTo_place_inv {lhs : Expr} {v w : Val}
    (hl : (∃ ty b i, lhs = .index .arr ty b i) ∨ (∃ ty b f, lhs = .member ty b f))
    (h : storeTo M (n + 1) lhs v fr g = .val w fr' g') :
    ∃ r p fr1 g1 root root', evalPlace M n lhs fr g = .place r p fr1 g1 ∧ Val.isPtr v = false ∧
      readRoot fr1 g1 r = .ok root ∧ setPath root p v = .ok root' ∧ writeRoot fr1 g1 r root' = .ok (fr', g') := by
  have key : storeTo M (n + 1) lhs v fr g =
      match evalPlace M n lhs fr g with
      | .fail er => .fail er
      | .place r p fr1 g1 =>
        match (do
          let v' ← noPtr v
          let root ← readRoot fr1 g1 r
          let root' ← setPath root p v'
          writeRoot fr1 g1 r root') with
        | .error er => .fail er
        | .ok (fr2, g2) => .val v fr2 g2 := by
    rcases hl with ⟨ty, b, i, rfl⟩ | ⟨ty, b, f, rfl⟩ <;> simp only [storeTo] <;> rfl
  rw [key] at h
  split at h
  · cases h
  · split at h
    · cases h
    · rename_i hb
      cases h
      obtain ⟨v', hn, hb⟩ := bind_ok hb
      obtain ⟨root, hr, hb⟩ := bind_ok hb
      obtain ⟨root', hs, hw⟩ := bind_ok hb
      obtain ⟨rfl, hnp⟩ := noPtr_ok hn
      exact ⟨_, _, _, _, root, root', ‹_›, hnp, hr, hs, hw⟩

theorem storeTo_index_inv {kd : IdxKind} {ty : ITy} {base idx : Expr} {v w : Val} (hk : kd ≠ .arr)
    (h : storeTo M (n + 1) (.index kd ty base idx) v fr g = .val w fr' g') :
    ∃ b fr1 g1 i fr2 g2 k b', evalE M n base fr g = .val b fr1 g1 ∧ evalE M n idx fr1 g1 = .val i fr2 g2 ∧
      indexOf b i = .ok k ∧ setKey b (.idx k) v = .ok b' ∧ storeTo M n base b' fr2 g2 = .val w fr' g' := by
  have key : storeTo M (n + 1) (.index kd ty base idx) v fr g =
      match evalE M n base fr g with
      | .fail er => .fail er
      | .val b fr1 g1 =>
        match evalE M n idx fr1 g1 with
        | .fail er => .fail er
        | .val i fr2 g2 =>
          match (do let k ← indexOf b i; setKey b (.idx k) v) with
          | .error er => .fail er
          | .ok b' => storeTo M n base b' fr2 g2 := by
    cases kd with
    | arr => exact absurd rfl hk
    | _ => simp only [storeTo]; rfl
  rw [key] at h
  split at h
  · cases h
  · split at h
    · cases h
    · split at h
      · cases h
      · rename_i hb
        obtain ⟨k, hk, hx⟩ := bind_ok hb
        exact ⟨_, _, _, _, _, _, k, _, ‹_›, ‹_›, hk, hx, h⟩

theorem storeTo_swizzle_inv {ty : ITy} {base : Expr} {idxs : List Nat} {v w : Val}
    (h : storeTo M (n + 1) (.swizzle ty base idxs) v fr g = .val w fr' g') :
    ∃ b fr1 g1 b', evalE M n base fr g = .val b fr1 g1 ∧ swizzleStore b idxs v = .ok b' ∧
      storeTo M n base b' fr1 g1 = .val w fr' g' := by
  simp only [storeTo] at h
  split at h
  · cases h
  · split at h
    · cases h
    · exact ⟨_, _, _, _, ‹_›, ‹_›, h⟩

theorem execS_zero {s : Stmt} : execS M 0 s fr g = .fail .timeout := by
  simp only [execS]

theorem execS_skip : execS M (n + 1) .skip fr g = .normal fr g := by
  simp only [execS]

theorem execS_decl_none {x : String} {ty : ITy} :
    execS M (n + 1) (.decl x ty none) fr g =
      .normal { fr with locals := Map.set fr.locals x (createInstance ty) } g := by
  simp only [execS]

theorem execS_decl_fail {x : String} {ty : ITy} {e : Expr} {er : Err}
    (h : evalE M n e { fr with locals := Map.set fr.locals x (createInstance ty) } g = .fail er) :
    execS M (n + 1) (.decl x ty (some e)) fr g = .fail er := by
  simp only [execS, h]

theorem execS_decl_val {x : String} {ty : ITy} {e : Expr} {v : Val}
    (h : evalE M n e { fr with locals := Map.set fr.locals x (createInstance ty) } g = .val v fr' g')
    (hv : Val.isPtr v = false) :
    execS M (n + 1) (.decl x ty (some e)) fr g = .normal { fr' with locals := Map.set fr'.locals x v } g' := by
  simp only [execS, h, noPtr_eq hv]

theorem execS_expr {e : Expr} :
    execS M (n + 1) (.expr e) fr g =
      match evalE M n e fr g with
      | .fail er => .fail er
      | .val _ fr1 g1 => .normal fr1 g1 := by
  simp only [execS]; rfl

theorem execS_seq {a b : Stmt} :
    execS M (n + 1) (.seq a b) fr g =
      match execS M n a fr g with
      | .normal fr1 g1 => execS M n b fr1 g1
      | o => o := by
  simp only [execS]; rfl

theorem execS_ite1 {c : Expr} {t : Stmt} :
    execS M (n + 1) (.ite1 c t) fr g =
      match evalE M n c fr g with
      | .fail er => .fail er
      | .val v fr1 g1 => if v.truthy then execS M n t fr1 g1 else .normal fr1 g1 := by
  simp only [execS]; rfl

theorem execS_ite2 {c : Expr} {t e : Stmt} :
    execS M (n + 1) (.ite2 c t e) fr g =
      match evalE M n c fr g with
      | .fail er => .fail er
      | .val v fr1 g1 => if v.truthy then execS M n t fr1 g1 else execS M n e fr1 g1 := by
  simp only [execS]; rfl

/-- Outcome of a loop after one run of its body: after normal completion and after `continue` the loop goes on with
`next`, `break` ends it normally, `return` and failure end it as they are. -/
def loopOut (next : Frame → Globals → SOut) : SOut → SOut
  | .normal fr g | .cont fr g => next fr g
  | .brk fr g => .normal fr g
  | o => o

theorem execS_while {c : Expr} {body : Stmt} :
    execS M (n + 1) (.whileL c body) fr g =
      match evalE M n c fr g with
      | .fail er => .fail er
      | .val v fr1 g1 =>
        if v.truthy then loopOut (fun fr2 g2 => execS M n (.whileL c body) fr2 g2) (execS M n body fr1 g1)
        else .normal fr1 g1 := by
  simp only [execS]; rfl

def doAfterBody (M : Core.Module) (n : Nat) (body : Stmt) (c : Expr) (fr1 : Frame) (g1 : Globals) : SOut :=
  match evalE M n c fr1 g1 with
  | .fail er => .fail er
  | .val v fr2 g2 => if v.truthy then execS M n (.doL body c) fr2 g2 else .normal fr2 g2

theorem execS_do {body : Stmt} {c : Expr} :
    execS M (n + 1) (.doL body c) fr g = loopOut (doAfterBody M n body c) (execS M n body fr g) := by
  simp only [execS]; rfl

theorem execS_brk : execS M (n + 1) .brk fr g = .brk fr g := by
  simp only [execS]

theorem execS_cont : execS M (n + 1) .cont fr g = .cont fr g := by
  simp only [execS]

theorem execS_ret_none : execS M (n + 1) (.ret none) fr g = .ret .none fr g := by
  simp only [execS]

theorem execS_ret_fail {e : Expr} {er : Err} (h : evalE M n e fr g = .fail er) :
    execS M (n + 1) (.ret (some e)) fr g = .fail er := by
  simp only [execS, h]

theorem execS_ret_val {e : Expr} {v : Val} (h : evalE M n e fr g = .val v fr' g') (hv : Val.isPtr v = false) :
    execS M (n + 1) (.ret (some e)) fr g = .ret v fr' g' := by
  simp only [execS, h]
  cases v with
  | ptr r p => cases hv
  | _ => rfl

def optEval (M : Core.Module) (n : Nat) (oe : Option Expr) (dflt : Val) (fr : Frame) (g : Globals) : EOut :=
  match oe with
  | none => .val dflt fr g
  | some e => evalE M n e fr g

def forAfterBody (M : Core.Module) (n : Nat) (c next : Option Expr) (body : Stmt) (fr2 : Frame) (g2 : Globals) : SOut :=
  match optEval M n next .none fr2 g2 with
  | .fail er => .fail er
  | .val _ fr3 g3 => execS M n (.forL .skip c next body) fr3 g3

def forLoop (M : Core.Module) (n : Nat) (c next : Option Expr) (body : Stmt) (fr0 : Frame) (g0 : Globals) : SOut :=
  match optEval M n c (.int 1) fr0 g0 with
  | .fail er => .fail er
  | .val v fr1 g1 =>
    if v.truthy then loopOut (forAfterBody M n c next body) (execS M n body fr1 g1) else .normal fr1 g1

theorem execS_for (M : Core.Module) (n : Nat) (init : Stmt) (c next : Option Expr) (body : Stmt) (fr : Frame)
    (g : Globals) :
    execS M (n + 1) (.forL init c next body) fr g =
      match execS M n init fr g with
      | .normal fr0 g0 => forLoop M n c next body fr0 g0
      | o => o := by
  simp only [execS]
  cases c <;> cases next <;> rfl

theorem callFn_zero {name : String} {args : List Val} : callFn M 0 name args g = .fail .timeout := by
  simp only [callFn]

theorem callFn_inv {name : String} {args : List Val} {v : Val} {as : List Val}
    (h : callFn M (n + 1) name args g = .done v g' as) :
    ∃ f fr1, findFn M name = some f ∧ as = fr1.args ∧
      (execS M n f.body { args := args } g = .ret v fr1 g' ∨
        (execS M n f.body { args := args } g = .normal fr1 g' ∧ v = .none)) := by
  simp only [callFn] at h
  split at h
  · cases h
  · split at h
    · cases h; exact ⟨_, _, ‹_›, rfl, .inr ⟨‹_›, rfl⟩⟩
    · cases h; exact ⟨_, _, ‹_›, rfl, .inl ‹_›⟩
    · cases h
    · cases h
    · cases h

end CoreSem
end Nsl
