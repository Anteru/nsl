import Nsl.Model.Overload

/-!
# Ranking by score against "the unique cheapest viable candidate" (C10)

`Scope.FindFunction` scores the candidates of a name, sorts them stably, drops the negative scores
and compares the first two; the specification asks for a unique viable declaration of least cost.
That the two agree does not depend on what a signature is: it is proved for any `σ` whose name,
score, viability test and cost satisfy `Rank.Laws`.  `Rank.findInScope`, `Rank.best`, … are the
bodies of the model's functions over `σ`; the model's functions are instances (`…_eq_rank`).
-/

namespace Nsl.Overload
open Nsl.Types

namespace Spec

theorem minOf_le : ∀ {l : List Nat} {x : Nat}, x ∈ l → minOf l ≤ x
  | [y], x, h => by rw [List.mem_singleton.mp h]; exact Nat.le_refl _
  | y :: z :: l, x, h => by
    show min y (minOf (z :: l)) ≤ x
    rcases List.mem_cons.mp h with rfl | h
    · exact Nat.min_le_left _ _
    · exact Nat.le_trans (Nat.min_le_right _ _) (minOf_le h)

theorem minOf_mem : ∀ {l : List Nat}, l ≠ [] → minOf l ∈ l
  | [], h => absurd rfl h
  | [y], _ => List.mem_singleton_self y
  | y :: z :: l, _ => by
    show min y (minOf (z :: l)) ∈ y :: z :: l
    rw [Nat.min_def]
    split
    · exact List.mem_cons_self
    · exact List.mem_cons_of_mem _ (minOf_mem (List.cons_ne_nil z l))

theorem minOf_eq_of_le {l : List Nat} {x : Nat} (hx : x ∈ l) (h : ∀ y ∈ l, x ≤ y) :
    minOf l = x :=
  Nat.le_antisymm (minOf_le hx) (h _ (minOf_mem (List.ne_nil_of_mem hx)))

theorem minOf_perm {l₁ l₂ : List Nat} (h : l₁.Perm l₂) : minOf l₁ = minOf l₂ := by
  by_cases hn : l₁ = []
  · subst hn; rw [← h.nil_eq]
  · exact minOf_eq_of_le (h.mem_iff.mpr (minOf_mem fun h2 => hn (h2 ▸ h).eq_nil))
      fun y hy => minOf_le (h.mem_iff.mp hy)

end Spec

namespace Rank
variable {σ : Type}

def insert (x : Int × σ) : List (Int × σ) → List (Int × σ)
  | [] => [x]
  | y :: ys => if x.1 ≤ y.1 then x :: y :: ys else y :: insert x ys

def sort : List (Int × σ) → List (Int × σ)
  | [] => []
  | x :: xs => insert x (sort xs)

def pick : List (Int × σ) → Except OErr σ
  | [] => .error .noMatch
  | [p] => .ok p.2
  | p :: q :: _ => if p.1 = q.1 then .error .ambiguous else .ok p.2

def findInScope (nm : σ → String) (score : σ → Int) (sc : List σ) (name : String) :
    Option (Except OErr σ) :=
  if (sc.filter fun c => nm c == name).isEmpty then none
  else some (pick ((sort ((sc.filter fun c => nm c == name).map fun c => (score c, c))).filter
    fun p => 0 ≤ p.1))

def findFunction (nm : σ → String) (score : σ → Int) :
    List (List σ) → String → Except OErr σ
  | [], _ => .error .unknown
  | sc :: rest, name =>
    match findInScope nm score sc name with
    | some r => r
    | none => findFunction nm score rest name

def pickUnique : List σ → Except OErr σ
  | [w] => .ok w
  | _ => .error .ambiguous

def bestOf (cost : σ → Nat) (vs : List σ) : Except OErr σ :=
  if vs.isEmpty then .error .noMatch
  else pickUnique (vs.filter fun s => cost s == Spec.minOf (vs.map cost))

def best (nm : σ → String) (viable : String → σ → Bool) (cost : σ → Nat) (sc : List σ)
    (name : String) : Except OErr σ :=
  if sc.all (fun s => nm s != name) then .error .unknown
  else bestOf cost (sc.filter (viable name))

def resolve (nm : σ → String) (viable : String → σ → Bool) (cost : σ → Nat)
    (chain : List (List σ)) (name : String) : Except OErr σ :=
  match chain.find? (fun sc => sc.any (fun s => nm s == name)) with
  | none => .error .unknown
  | some sc => best nm viable cost sc name

/-- What the score has to do with the specification. -/
structure Laws (nm : σ → String) (score : σ → Int) (viable : String → σ → Bool)
    (cost : σ → Nat) : Prop where
  name_eq : ∀ n s, viable n s = true → nm s = n
  nonneg_iff : ∀ s, 0 ≤ score s ↔ viable (nm s) s = true
  eq_cost : ∀ s, 0 ≤ score s → score s = cost s

def Sorted (l : List (Int × σ)) : Prop := l.Pairwise (fun a b => a.1 ≤ b.1)

theorem insert_perm (x : Int × σ) : ∀ l, (insert x l).Perm (x :: l)
  | [] => by simp [insert]
  | y :: ys => by
    unfold insert
    split
    · exact List.Perm.refl _
    · exact ((insert_perm x ys).cons y).trans (List.Perm.swap x y ys)

theorem sort_perm : ∀ l : List (Int × σ), (sort l).Perm l
  | [] => by simp [sort]
  | x :: xs => (insert_perm x _).trans ((sort_perm xs).cons x)

theorem insert_sorted (x : Int × σ) : ∀ l, Sorted l → Sorted (insert x l)
  | [], _ => by simp [insert, Sorted]
  | y :: ys, h => by
    unfold insert
    have h' := List.pairwise_cons.mp h
    split
    · rename_i hxy
      refine List.pairwise_cons.mpr ⟨?_, h⟩
      intro z hz
      rcases List.mem_cons.mp hz with rfl | hz
      · exact hxy
      · have := h'.1 z hz; omega
    · rename_i hxy
      refine List.pairwise_cons.mpr ⟨?_, insert_sorted x ys h'.2⟩
      intro z hz
      rcases List.mem_cons.mp ((insert_perm x ys).mem_iff.mp hz) with rfl | hz
      · omega
      · exact h'.1 z hz

theorem sort_sorted : ∀ l : List (Int × σ), Sorted (sort l)
  | [] => by simp [sort, Sorted]
  | x :: xs => insert_sorted x _ (sort_sorted xs)

theorem pickUnique_perm {l₁ l₂ : List σ} (h : l₁.Perm l₂) : pickUnique l₁ = pickUnique l₂ := by
  match l₁, l₂, h with
  | [], l₂, h => rw [← h.nil_eq]
  | [w], l₂, h => rw [← List.singleton_perm.mp h]
  | a :: b :: l, [], h => exact absurd h.length_eq (by simp)
  | a :: b :: l, [w], h => exact absurd h.length_eq (by simp)
  | a :: b :: l, c :: d :: l', _ => rfl

theorem pickUnique_eq_ok_iff {l : List σ} {s : σ} : pickUnique l = .ok s ↔ l = [s] := by
  rcases l with _ | ⟨a, _ | ⟨b, l⟩⟩ <;> simp [pickUnique]

theorem bestOf_perm (cost : σ → Nat) {vs₁ vs₂ : List σ} (h : vs₁.Perm vs₂) :
    bestOf cost vs₁ = bestOf cost vs₂ := by
  unfold bestOf
  rw [h.isEmpty_eq, Spec.minOf_perm (h.map _), pickUnique_perm (h.filter _)]

theorem bestOf_sorted (cost : σ → Nat) (vs : List σ)
    (hs : vs.Pairwise (fun a b => cost a ≤ cost b)) :
    bestOf cost vs = pick (vs.map fun s => ((cost s : Int), s)) := by
  match vs, hs with
  | [], _ => rfl
  | [v], _ =>
    rw [bestOf, if_neg (by simp), List.map_singleton, Spec.minOf,
      List.filter_cons_of_pos (by simp)]
    rfl
  | v :: w :: rest, hs =>
    have h1 := List.pairwise_cons.mp hs
    have h2 := List.pairwise_cons.mp h1.2
    have hmin : Spec.minOf (cost v :: (w :: rest).map cost) = cost v :=
      Spec.minOf_eq_of_le List.mem_cons_self (by simpa using h1.1)
    rw [bestOf, if_neg (by simp), List.map_cons, hmin, List.filter_cons_of_pos (by simp)]
    simp only [pick, List.map_cons]
    by_cases hvw : cost v = cost w
    · rw [List.filter_cons_of_pos (by simp [hvw]), if_pos (by rw [hvw])]; rfl
    · have hnil : (w :: rest).filter (fun s => cost s == cost v) = [] :=
        List.filter_eq_nil_iff.mpr fun t ht => by
          have : cost w ≤ cost t := by
            rcases List.mem_cons.mp ht with rfl | ht
            · exact Nat.le_refl _
            · exact h2.1 t ht
          have := h1.1 w List.mem_cons_self
          simp only [beq_iff_eq]; omega
      rw [hnil, if_neg (by omega)]; rfl

theorem eq_singleton_iff_count [DecidableEq σ] {l : List σ} {s : σ} :
    l = [s] ↔ l.count s = 1 ∧ ∀ t ∈ l, t = s := by
  constructor
  · rintro rfl; simp
  · rintro ⟨hc, hall⟩
    have hrep := List.eq_replicate_iff.mpr ⟨rfl, hall⟩
    rw [hrep, List.count_replicate_self] at hc
    rw [hrep, hc]; rfl

theorem bestOf_eq_ok_iff [DecidableEq σ] (cost : σ → Nat) {vs : List σ} {s : σ} :
    bestOf cost vs = .ok s ↔
      s ∈ vs ∧ vs.count s = 1 ∧ ∀ t ∈ vs, t ≠ s → cost s < cost t := by
  have hne : s ∈ vs → ¬ vs.isEmpty = true := fun h he => by
    rw [List.isEmpty_iff.mp he] at h; cases h
  unfold bestOf
  constructor
  · intro h
    split at h
    · cases h
    · rw [pickUnique_eq_ok_iff] at h
      have hmem : ∀ t, t ∈ vs ∧ cost t = Spec.minOf (vs.map cost) ↔ t = s := fun t => by
        rw [← List.mem_singleton (b := s), ← h, List.mem_filter, beq_iff_eq]
      have hs := (hmem s).mpr rfl
      refine ⟨hs.1, ?_, fun t ht hne => ?_⟩
      · rw [← List.count_filter (p := fun t => cost t == Spec.minOf (vs.map cost))
          (beq_iff_eq.mpr hs.2), h, List.count_singleton_self]
      · have hle := Spec.minOf_le (List.mem_map_of_mem (f := cost) ht)
        have : cost t ≠ Spec.minOf (vs.map cost) := fun h' => hne ((hmem t).mp ⟨ht, h'⟩)
        omega
  · rintro ⟨hs, hc, hmin⟩
    have hm : Spec.minOf (vs.map cost) = cost s := by
      refine Spec.minOf_eq_of_le (List.mem_map_of_mem hs) fun y hy => ?_
      obtain ⟨t, ht, rfl⟩ := List.mem_map.mp hy
      by_cases hts : t = s
      · rw [hts]; exact Nat.le_refl _
      · exact Nat.le_of_lt (hmin t ht hts)
    rw [if_neg (hne hs), pickUnique_eq_ok_iff, hm, eq_singleton_iff_count,
      List.count_filter (p := fun t => cost t == cost s) (beq_self_eq_true _), hc]
    refine ⟨rfl, fun t ht => ?_⟩
    obtain ⟨ht, hct⟩ := List.mem_filter.mp ht
    refine Classical.byContradiction fun hts => ?_
    have := hmin t ht hts
    have := beq_iff_eq.mp hct
    omega
section Laws
variable {nm : σ → String} {score : σ → Int} {viable : String → σ → Bool} {cost : σ → Nat}

theorem all_ne_iff (sc : List σ) (name : String) :
    sc.all (fun s => nm s != name) = true ↔ ∀ s ∈ sc, nm s ≠ name := by
  simp

theorem any_eq_iff (sc : List σ) (name : String) :
    sc.any (fun s => nm s == name) = true ↔ ∃ s ∈ sc, nm s = name := by
  simp

theorem isEmpty_filter_name (sc : List σ) (name : String) :
    (sc.filter fun c => nm c == name).isEmpty = sc.all fun s => nm s != name := by
  rw [Bool.eq_iff_iff]; simp [List.filter_eq_nil_iff]

theorem findInScope_eq_none_iff (sc : List σ) (name : String) :
    findInScope nm score sc name = none ↔ ∀ s ∈ sc, nm s ≠ name := by
  unfold findInScope
  rw [isEmpty_filter_name, ← all_ne_iff]
  cases sc.all fun s => nm s != name <;> simp

variable (H : Laws nm score viable cost)
include H

theorem filter_scored (sc : List σ) (name : String) :
    ((sc.filter fun c => nm c == name).map fun c => (score c, c)).filter (fun p => 0 ≤ p.1) =
      (sc.filter (viable name)).map fun s => ((cost s : Int), s) := by
  have hf : ∀ s, (decide (0 ≤ score s) && nm s == name) = viable name s := by
    intro s
    by_cases hn : nm s = name
    · subst hn; rw [Bool.eq_iff_iff]; simp [H.nonneg_iff]
    · have : viable name s = false := Bool.eq_false_iff.mpr fun h => hn (H.name_eq _ _ h)
      simp [hn, this]
  rw [List.filter_map, List.filter_filter]
  simp only [Function.comp_def, hf]
  refine List.map_congr_left fun s hs => ?_
  have hv := (List.mem_filter.mp hs).2
  rw [H.eq_cost s ((H.nonneg_iff s).mpr (H.name_eq _ _ hv ▸ hv))]

omit H in
theorem pick_eq_bestOf {R : List (Int × σ)} {vs : List σ} (hs : Sorted R)
    (hp : R.Perm (vs.map fun s => ((cost s : Int), s))) : pick R = bestOf cost vs := by
  obtain ⟨L, rfl⟩ : ∃ L : List σ, R = L.map fun s => ((cost s : Int), s) := by
    refine ⟨R.map (·.2), ?_⟩
    rw [List.map_map]
    refine (List.map_id R).symm.trans (List.map_congr_left fun p hpR => ?_)
    obtain ⟨s, -, rfl⟩ := List.mem_map.mp (hp.mem_iff.mp hpR)
    rfl
  have hp2 : L.Perm vs := by simpa [Function.comp_def] using hp.map (·.2)
  rw [← bestOf_perm cost hp2, bestOf_sorted]
  simpa [Sorted, List.pairwise_map] using hs

theorem findInScope_eq (sc : List σ) (name : String) :
    findInScope nm score sc name =
      if sc.all (fun s => nm s != name) then none else some (best nm viable cost sc name) := by
  unfold findInScope best
  rw [isEmpty_filter_name]
  split
  · rfl
  · exact congrArg some (pick_eq_bestOf ((sort_sorted _).filter _)
      (((sort_perm _).filter _).trans (.of_eq (filter_scored H sc name))))

omit H in
theorem findFunction_cons_of_absent {sc : List σ} (rest : List (List σ)) {name : String}
    (h : ∀ t ∈ sc, nm t ≠ name) :
    findFunction nm score (sc :: rest) name = findFunction nm score rest name := by
  rw [findFunction, (findInScope_eq_none_iff sc name).mpr h]

omit H in
theorem findFunction_append_of_absent {pre : List (List σ)} (rest : List (List σ))
    {name : String} (h : ∀ sc ∈ pre, ∀ t ∈ sc, nm t ≠ name) :
    findFunction nm score (pre ++ rest) name = findFunction nm score rest name := by
  induction pre with
  | nil => rfl
  | cons sc pre ih =>
    rw [List.cons_append, findFunction_cons_of_absent _ (h sc (by simp)),
      ih fun sc' h' => h sc' (List.mem_cons_of_mem _ h')]

theorem findInScope_of_mem {sc : List σ} {name : String} (h : ∃ t ∈ sc, nm t = name) :
    findInScope nm score sc name = some (best nm viable cost sc name) := by
  obtain ⟨t, ht, e⟩ := h
  rw [findInScope_eq H, if_neg fun hall => (all_ne_iff sc name).mp hall t ht e]

theorem findFunction_cons_of_mem {sc : List σ} (rest : List (List σ)) {name : String}
    (h : ∃ t ∈ sc, nm t = name) :
    findFunction nm score (sc :: rest) name = best nm viable cost sc name := by
  rw [findFunction, findInScope_of_mem H h]

theorem findFunction_eq_resolve (chain : List (List σ)) (name : String) :
    findFunction nm score chain name = resolve nm viable cost chain name := by
  induction chain with
  | nil => rfl
  | cons sc rest ih =>
    unfold resolve
    rw [List.find?_cons]
    by_cases hn : ∃ t ∈ sc, nm t = name
    · rw [findFunction_cons_of_mem H rest hn, (any_eq_iff sc name).mpr hn]
    · rw [findFunction_cons_of_absent rest fun t ht e => hn ⟨t, ht, e⟩, ih,
        Bool.eq_false_iff.mpr (mt (any_eq_iff sc name).mp hn)]
      rfl

omit H in
theorem best_perm {sc₁ sc₂ : List σ} (h : sc₁.Perm sc₂) (name : String) :
    best nm viable cost sc₁ name = best nm viable cost sc₂ name := by
  unfold best
  rw [h.all_eq, bestOf_perm cost (h.filter _)]

theorem findInScope_perm {sc₁ sc₂ : List σ} (h : sc₁.Perm sc₂) (name : String) :
    findInScope nm score sc₁ name = findInScope nm score sc₂ name := by
  rw [findInScope_eq H, findInScope_eq H, h.all_eq, best_perm h]

theorem findFunction_perm (chain₁ chain₂ : List (List σ)) (hlen : chain₁.length = chain₂.length)
    (h : ∀ (k : Nat) (h₁ : k < chain₁.length) (h₂ : k < chain₂.length),
      (chain₁[k]'h₁).Perm (chain₂[k]'h₂))
    (name : String) :
    findFunction nm score chain₁ name = findFunction nm score chain₂ name := by
  induction chain₁ generalizing chain₂ with
  | nil =>
    cases chain₂ with
    | nil => rfl
    | cons _ _ => simp at hlen
  | cons sc₁ rest₁ ih =>
    cases chain₂ with
    | nil => simp at hlen
    | cons sc₂ rest₂ =>
      have h0 : sc₁.Perm sc₂ := h 0 (by simp) (by simp)
      have hr := ih rest₂ (by simpa using hlen) fun k h₁ h₂ => by
        have := h (k + 1) (by simpa using h₁) (by simpa using h₂)
        simpa only [List.getElem_cons_succ] using this
      simp only [findFunction, findInScope_perm H h0, hr]

omit H in
theorem best_eq_ok_iff [DecidableEq σ] (hname : ∀ n s, viable n s = true → nm s = n)
    {sc : List σ} {name : String} {s : σ} :
    best nm viable cost sc name = .ok s ↔
      s ∈ sc ∧ viable name s = true ∧ sc.count s = 1 ∧
        ∀ t ∈ sc, viable name t = true → t ≠ s → cost s < cost t := by
  have hcount : viable name s = true → (sc.filter (viable name)).count s = sc.count s :=
    List.count_filter
  unfold best
  split
  · rename_i hn
    refine ⟨fun h => (nomatch h), fun h => ?_⟩
    exact absurd (hname _ _ h.2.1) ((all_ne_iff sc name).mp hn s h.1)
  · rw [bestOf_eq_ok_iff]
    simp only [List.mem_filter, and_imp, and_assoc]
    constructor
    · rintro ⟨hs, hv, hc, hmin⟩; exact ⟨hs, hv, hcount hv ▸ hc, hmin⟩
    · rintro ⟨hs, hv, hc, hmin⟩; exact ⟨hs, hv, (hcount hv).trans hc, hmin⟩

theorem findFunction_eq_ok_iff [DecidableEq σ] {chain : List (List σ)} {name : String} {s : σ} :
    findFunction nm score chain name = .ok s ↔
      ∃ pre sc post, chain = pre ++ sc :: post ∧ (∀ sc' ∈ pre, ∀ t ∈ sc', nm t ≠ name) ∧
        s ∈ sc ∧ viable name s = true ∧ sc.count s = 1 ∧
          ∀ t ∈ sc, viable name t = true → t ≠ s → cost s < cost t := by
  constructor
  · intro h
    induction chain with
    | nil => cases h
    | cons sc rest ih =>
      by_cases hn : ∃ t ∈ sc, nm t = name
      · rw [findFunction_cons_of_mem H rest hn] at h
        exact ⟨[], sc, rest, rfl, (fun _ h => nomatch h), (best_eq_ok_iff H.name_eq).mp h⟩
      · have hn' : ∀ t ∈ sc, nm t ≠ name := fun t ht e => hn ⟨t, ht, e⟩
        rw [findFunction_cons_of_absent rest hn'] at h
        obtain ⟨pre, sc', post, rfl, hpre, hb⟩ := ih h
        exact ⟨sc :: pre, sc', post, rfl, List.forall_mem_cons.mpr ⟨hn', hpre⟩, hb⟩
  · rintro ⟨pre, sc, post, rfl, hpre, hs, hv, hb⟩
    rw [findFunction_append_of_absent _ hpre,
      findFunction_cons_of_mem H post ⟨s, hs, H.name_eq _ _ hv⟩]
    exact (best_eq_ok_iff H.name_eq).mpr ⟨hs, hv, hb⟩

end Laws

section Map
variable {τ : Type} (f : σ → τ)

theorem insert_map (x : Int × σ) : ∀ l : List (Int × σ),
    insert (x.map id f) (l.map (Prod.map id f)) = (insert x l).map (Prod.map id f)
  | [] => rfl
  | y :: ys => by
    simp only [List.map_cons, insert, Prod.map_fst, id]
    split
    · rfl
    · rw [insert_map x ys]; rfl

theorem sort_map : ∀ l : List (Int × σ),
    sort (l.map (Prod.map id f)) = (sort l).map (Prod.map id f)
  | [] => rfl
  | x :: xs => by simp only [List.map_cons, sort, sort_map xs, insert_map]

theorem pick_map : ∀ l : List (Int × σ), pick (l.map (Prod.map id f)) = (pick l).map f
  | [] => rfl
  | [p] => rfl
  | p :: q :: l => by
    simp only [List.map_cons, pick, Prod.map_fst, id]
    split <;> rfl

variable {nm : σ → String} {score : σ → Int} {nm' : τ → String} {score' : τ → Int}
  (hn : ∀ s, nm' (f s) = nm s) (hs : ∀ s, score' (f s) = score s)
include hn hs

theorem findInScope_map (sc : List σ) (name : String) :
    findInScope nm' score' (sc.map f) name =
      (findInScope nm score sc name).map (Except.map f) := by
  have hm : ((sc.filter fun c => nm c == name).map f).map (fun c => (score' c, c)) =
      ((sc.filter fun c => nm c == name).map fun c => (score c, c)).map (Prod.map id f) := by
    simp [Function.comp_def, hs]
  have hfl : ∀ l : List (Int × σ), (l.map (Prod.map id f)).filter (fun p => decide (0 ≤ p.1)) =
      (l.filter fun p => decide (0 ≤ p.1)).map (Prod.map id f) := fun l => by
    rw [List.filter_map]; rfl
  unfold findInScope
  simp only [List.filter_map, Function.comp_def, hn, List.isEmpty_map, hm, sort_map, hfl,
    pick_map]
  split <;> rfl

theorem findFunction_map (chain : List (List σ)) (name : String) :
    findFunction nm' score' (chain.map (·.map f)) name =
      (findFunction nm score chain name).map f := by
  induction chain with
  | nil => rfl
  | cons sc rest ih =>
    simp only [List.map_cons, findFunction, findInScope_map f hn hs, ih]
    cases findInScope nm score sc name <;> rfl

end Map

end Rank

theorem insertByScore_eq_rank (x : Int × Sig) : ∀ l, insertByScore x l = Rank.insert x l
  | [] => rfl
  | y :: ys => by rw [insertByScore, Rank.insert, insertByScore_eq_rank x ys]

theorem sortByScore_eq_rank : ∀ l, sortByScore l = Rank.sort l
  | [] => rfl
  | x :: xs => by rw [sortByScore, Rank.sort, sortByScore_eq_rank xs, insertByScore_eq_rank]

theorem pickRanked_eq_rank (l : List (Int × Sig)) : pickRanked l = Rank.pick l := by
  rcases l with _ | ⟨p, _ | ⟨q, l⟩⟩ <;> rfl

theorem findInScope_eq_rank (sc : Scope) (name : String) (args : List Ty) :
    findInScope sc name args = Rank.findInScope Sig.name (matchSig · args) sc name := by
  simp only [findInScope, findInScopeWith, Rank.findInScope, sortByScore_eq_rank,
    pickRanked_eq_rank]

theorem findFunction_eq_rank (chain : List Scope) (name : String) (args : List Ty) :
    findFunction chain name args = Rank.findFunction Sig.name (matchSig · args) chain name := by
  induction chain with
  | nil => rfl
  | cons sc rest ih =>
    simp only [findFunction, Rank.findFunction, findInScope_eq_rank, ih]
    cases Rank.findInScope Sig.name (matchSig · args) sc name <;> rfl

theorem Spec.best_eq_rank (sc : Scope) (name : String) (args : List Ty) :
    Spec.best sc name args =
      Rank.best Sig.name (fun n s => Spec.viable s n args) (Spec.cost · args) sc name := by
  simp only [Spec.best, Rank.best, Rank.bestOf]
  -- both sides now take apart the same list, the cheapest viable declarations, with two matchers
  generalize List.filter _ (List.filter _ _) = l
  rcases l with _ | ⟨a, _ | ⟨b, l⟩⟩ <;> rfl

theorem Spec.resolve_eq_rank (chain : List Scope) (name : String) (args : List Ty) :
    Spec.resolve chain name args =
      Rank.resolve Sig.name (fun n s => Spec.viable s n args) (Spec.cost · args) chain name := by
  unfold Spec.resolve Rank.resolve
  cases List.find? _ chain <;> simp only [Spec.best_eq_rank]

theorem viable_iff_forall {s : Sig} {name : String} {args : List Ty} :
    Spec.viable s name args = true ↔
      s.name = name ∧ s.params.length = args.length ∧
        ∀ i < args.length, Spec.convertibleAt args s.params i = true := by
  simp [Spec.viable, and_assoc]

theorem viable_convertible {s : Sig} {name : String} {args : List Ty}
    (h : Spec.viable s name args = true) {i : Nat} {a p : Ty}
    (ha : args[i]? = some a) (hp : s.params[i]? = some p) : isCompatible a p = true := by
  have := (viable_iff_forall.mp h).2.2 i (List.getElem?_eq_some_iff.mp ha).1
  rwa [Spec.convertibleAt, ha, hp] at this

end Nsl.Overload
