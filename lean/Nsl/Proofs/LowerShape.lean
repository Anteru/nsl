import Nsl.Proofs.LowerLocal
/-!
# Shape of lowered code: placement of fragments, counters, labels

The single counter is monotone, expression code contains no label markers and its result operand is numbered below
the final counter: all three are read off the fragment invariant `ELocal`.  The labels a statement creates lie in
`[k, k')` and are pairwise distinct, so in a lowered function the position of a label marker is what `labelPos` (the
VM's `blockOffsets`) returns (`LabelsOK`).
-/
namespace Nsl
namespace Lower
open Core

def At (code : List Instr) (q : Nat) (frag : List Instr) : Prop :=
  ∃ pre post, code = pre ++ frag ++ post ∧ pre.length = q

theorem At.whole (code : List Instr) : At code 0 code := ⟨[], [], by simp, rfl⟩

theorem At.left {code : List Instr} {q : Nat} {a b : List Instr} (h : At code q (a ++ b)) :
    At code q a := by
  obtain ⟨pre, post, hc, hq⟩ := h
  exact ⟨pre, b ++ post, by simp [hc], hq⟩

theorem At.right {code : List Instr} {q : Nat} {a b : List Instr} (h : At code q (a ++ b)) :
    At code (q + a.length) b := by
  obtain ⟨pre, post, hc, hq⟩ := h
  exact ⟨pre ++ a, post, by simp [hc], by simp [hq]⟩

theorem At.head {code : List Instr} {q : Nat} {x : Instr} {rest : List Instr}
    (h : At code q (x :: rest)) : code[q]? = some x := by
  obtain ⟨pre, post, hc, hq⟩ := h
  subst hc; subst hq
  simp

theorem At.tail {code : List Instr} {q : Nat} {x : Instr} {rest : List Instr}
    (h : At code q (x :: rest)) : At code (q + 1) rest := by
  have h' : At code q ([x] ++ rest) := h
  have := h'.right
  simpa using this

theorem At.nil_end {code : List Instr} {q : Nat} {frag : List Instr} (h : At code q frag) :
    q + frag.length ≤ code.length := by
  obtain ⟨pre, post, hc, hq⟩ := h
  subst hc; subst hq
  simp only [List.length_append]; omega

theorem At.whole_end (code : List Instr) : 0 + code.length = code.length := by simp

def labels (code : List Instr) : List Nat := code.filterMap labelOf

@[simp] theorem labels_nil : labels [] = [] := rfl
@[simp] theorem labels_append (a b : List Instr) : labels (a ++ b) = labels a ++ labels b := by
  simp [labels]
@[simp] theorem labels_cons_label (l : Nat) (rest : List Instr) :
    labels (.label l :: rest) = l :: labels rest := by
  simp [labels, labelOf]

theorem labels_cons_of_none {x : Instr} (h : labelOf x = none) (rest : List Instr) : labels (x :: rest) = labels rest :=
  List.filterMap_cons_none h

@[simp] theorem labels_cons_brc (p : Opd) (t f : Nat) (rest : List Instr) :
    labels (.brc p t f :: rest) = labels rest :=
  labels_cons_of_none rfl rest
@[simp] theorem labels_cons_br (t : Nat) (rest : List Instr) :
    labels (.br t :: rest) = labels rest :=
  labels_cons_of_none rfl rest
@[simp] theorem labels_cons_ret (v : Option Opd) (rest : List Instr) : labels (.ret v :: rest) = labels rest :=
  labels_cons_of_none rfl rest
@[simp] theorem labels_cons_newVar (d : Nat) (t : ITy) (n : String) (rest : List Instr) :
    labels (.newVar d t n :: rest) = labels rest :=
  labels_cons_of_none rfl rest
@[simp] theorem labels_cons_store (sc : Scope) (v : VarKey) (s : Opd) (rest : List Instr) :
    labels (.store sc v s :: rest) = labels rest :=
  labels_cons_of_none rfl rest

theorem NoLabels.labels_eq {code : List Instr} (h : NoLabels code) : labels code = [] :=
  List.filterMap_eq_nil_iff.2 h

theorem labelPos_go_none (l : Nat) (code : List Instr) (i : Nat) :
    labelPos.go l code i = none → ∀ j : Nat, code[j]? ≠ some (Instr.label l) := by
  induction code generalizing i with
  | nil => intro _ j; simp
  | cons x rest ih =>
    intro hn j hj
    by_cases hx : x = .label l
    · subst hx; simp [labelPos.go] at hn
    · rw [Opt.labelPos_go_cons, if_neg fun h => hx (Opt.labelOf_eq_some h)] at hn
      cases j with
      | zero => exact hx (by simpa using hj)
      | succ j => exact ih (i + 1) hn j (by simpa using hj)

theorem labelPos_go_of_nodup (l : Nat) : ∀ (code : List Instr) (i j : Nat), (labels code).Nodup →
    code[j]? = some (.label l) → labelPos.go l code i = some (i + j)
  | x :: rest, i, 0, _, hj => by
    obtain rfl : x = .label l := by simpa using hj
    simp [labelPos.go]
  | x :: rest, i, j + 1, hnd, hj => by
    have hj' : rest[j]? = some (.label l) := by simpa using hj
    have hx : x ≠ .label l := by
      rintro rfl
      rw [labels_cons_label, List.nodup_cons] at hnd
      exact hnd.1 (List.mem_filterMap.2 ⟨_, List.mem_of_getElem? hj', rfl⟩)
    rw [Opt.labelPos_go_cons, if_neg fun h => hx (Opt.labelOf_eq_some h), labelPos_go_of_nodup l rest (i + 1) j
      (hnd.sublist ((List.sublist_cons_self x rest).filterMap labelOf)) hj', Nat.add_right_comm, Nat.add_assoc]

theorem labelPos_of_nodup {code : List Instr} (hnd : (labels code).Nodup) {i l : Nat}
    (hi : code[i]? = some (.label l)) : labelPos code l = some i := by
  simpa [labelPos] using labelPos_go_of_nodup l code 0 i hnd hi

/-- What the simulation needs to know about the labels of a function's code. -/
def LabelsOK (code : List Instr) : Prop :=
  ∀ i l, code[i]? = some (.label l) → labelPos code l = some i

theorem LabelsOK.of_nodup {code : List Instr} (h : (labels code).Nodup) : LabelsOK code :=
  fun _ _ hi => labelPos_of_nodup h hi

theorem LabelsOK.at {code : List Instr} (h : LabelsOK code) {q l : Nat} {rest : List Instr}
    (ha : At code q (.label l :: rest)) : labelPos code l = some q :=
  h q l ha.head

def OpdBelow (o : Opd) (k' : Nat) : Prop :=
  match o with
  | .ref r => r < k'
  | _ => True

theorem OpdBelow.mono {o : Opd} {a b : Nat} (h : OpdBelow o a) (hab : a ≤ b) : OpdBelow o b := by
  cases o with
  | ref r => exact Nat.lt_of_lt_of_le h hab
  | _ => trivial

theorem ELocal.shape {k k' : Nat} {c : List Instr} {o : Opd} (h : ELocal k c o k') :
    NoLabels c ∧ k ≤ k' ∧ OpdBelow o k' := by
  refine ⟨h.noLab, h.sl.le, ?_⟩
  cases o with
  | ref r => exact (h.sl.defsIn r (h.opd r List.mem_cons_self)).2
  | _ => trivial

theorem lowerE_shapeG (e : Expr) (k : Nat) (c : List Instr) (o : Opd) (k' : Nat) (h : lowerE e k = (c, o, k')) :
    NoLabels c ∧ k ≤ k' ∧ OpdBelow o k' :=
  (lowerE_localG e k c o k' h).shape

theorem lowerArgs_shapeG (as : Args) (k : Nat) (c : List Instr) (os : List Opd) (k' : Nat)
    (h : lowerArgs as k = (c, os, k')) : NoLabels c ∧ k ≤ k' ∧ ∀ o ∈ os, OpdBelow o k' := by
  obtain ⟨p, q⟩ := lowerArgs_localG as k c os k' h
  refine ⟨p.noLab, p.sl.le, fun o ho => ?_⟩
  cases o with
  | ref r => exact (p.sl.defsIn r (q r (opdsRefs_mem ho List.mem_cons_self))).2
  | _ => trivial

theorem lowerStore_shapeG (e : Expr) (v : Opd) (k : Nat) (c : List Instr) (k' : Nat) (h : lowerStore e v k = (c, k')) :
    NoLabels c ∧ k ≤ k' :=
  have p := lowerStore_local e v k c k' h
  ⟨p.noLab, p.le⟩

theorem lowerE_mono (e : Expr) (k : Nat) (c : List Instr) (o : Opd) (k' : Nat) (h : lowerE e k = (c, o, k')) : k ≤ k' :=
  (lowerE_localG e k c o k' h).sl.le

theorem lowerArgs_mono (as : Args) (k : Nat) (c : List Instr) (os : List Opd) (k' : Nat)
    (h : lowerArgs as k = (c, os, k')) : k ≤ k' :=
  (lowerArgs_localG as k c os k' h).1.sl.le

theorem lowerOptE_shapeG {oe : Option Expr} {k : Nat} {c : List Instr} {o : Option Opd} {k' : Nat}
    (h : lowerOptE oe k = (c, o, k')) : NoLabels c ∧ k ≤ k' :=
  lowerOptE_elim (Q := fun c _ k' => NoLabels c ∧ k ≤ k') h (fun _ => ⟨All.nil, Nat.le_refl k⟩)
    fun _ _ _ he => ⟨(local_rules.ofE he).noLab, (local_rules.ofE he).sl.le⟩

theorem lowerStore_var (sc : Scope) (key : VarKey) (ty : ITy) (v : Opd) (k : Nat) :
    lowerStore (.var sc key ty) v k = ([.store sc key v], k + 1) := by
  simp [lowerStore]

def LabelsIn (c : List Instr) (S : Nat → Prop) : Prop := (∀ l ∈ labels c, S l) ∧ (labels c).Nodup

theorem LabelsIn.of_noLabels {c : List Instr} (h : NoLabels c) (S : Nat → Prop) : LabelsIn c S := by
  simp [LabelsIn, h.labels_eq]

theorem LabelsIn.label (l : Nat) : LabelsIn [.label l] (· = l) := by
  simp [LabelsIn]

theorem LabelsIn.mono {c : List Instr} {S T : Nat → Prop} (h : LabelsIn c S) (hST : ∀ l, S l → T l) : LabelsIn c T :=
  ⟨fun l hl => hST l (h.1 l hl), h.2⟩

theorem LabelsIn.append {a b : List Instr} {S T : Nat → Prop} (ha : LabelsIn a S) (hb : LabelsIn b T)
    (hd : ∀ l, S l → T l → False) : LabelsIn (a ++ b) (fun l => S l ∨ T l) := by
  rw [LabelsIn, labels_append]
  refine ⟨fun l hl => (List.mem_append.1 hl).imp (ha.1 l) (hb.1 l), List.nodup_append.2 ⟨ha.2, hb.2, ?_⟩⟩
  rintro x hx _ hy rfl
  exact hd x (ha.1 x hx) (hb.1 x hy)

theorem LabelsIn.append_noLabels {a b : List Instr} {S : Nat → Prop} (ha : LabelsIn a S) (hb : NoLabels b) :
    LabelsIn (a ++ b) S := by
  rw [LabelsIn, labels_append, hb.labels_eq, List.append_nil]; exact ha

theorem LabelsIn.noLabels_append {a b : List Instr} {S : Nat → Prop} (ha : NoLabels a) (hb : LabelsIn b S) :
    LabelsIn (a ++ b) S := by
  rw [LabelsIn, labels_append, ha.labels_eq, List.nil_append]; exact hb

theorem LabelsIn.cons {x : Instr} {c : List Instr} {S : Nat → Prop} (hx : labelOf x = none) (h : LabelsIn c S) :
    LabelsIn (x :: c) S :=
  LabelsIn.noLabels_append (a := [x]) (All.one hx) h

theorem labelOf_forBranch (v : Option Opd) (a b : Nat) : labelOf (forBranch v a b) = none :=
  forall_forBranch (P := (labelOf · = none)) rfl (fun _ => rfl) v

@[simp] theorem labels_cons_forBranch (v : Option Opd) (a b : Nat) (rest : List Instr) :
    labels (forBranch v a b :: rest) = labels rest :=
  labels_cons_of_none (labelOf_forBranch v a b) rest

/-- A production takes the next counters for its own labels and hands the counters after them to its sub-statements;
each case lists the label sets in code order.  The side condition of `.append` is disjointness from the sets before,
the one of `.mono` that all lie in `[k, k')`. -/
theorem shape_rules : SRules (fun _ _ _ k c k' => k ≤ k' ∧ LabelsIn c fun l => k ≤ l ∧ l < k') where
  skip _ _ k := ⟨Nat.le_refl k, .of_noLabels All.nil _⟩
  declNone _ _ _ _ k := ⟨Nat.le_succ k, .of_noLabels (All.one rfl) _⟩
  declInit _ _ _ _ := fun he => by
    obtain ⟨nl, le, -⟩ := (local_rules.ofE he).shape
    exact ⟨by omega, .of_noLabels (All.snoc (All.cons rfl nl) rfl) _⟩
  expr _ _ := fun he => by
    obtain ⟨nl, le, -⟩ := (local_rules.ofE he).shape
    exact ⟨le, .of_noLabels nl _⟩
  seq := by
    intro brk cont a b k ca k1 cb k2 ia ib
    -- `[k, k1)`, `[k1, k2)`
    exact ⟨by omega, (LabelsIn.append ia.2 ib.2 (by intro l; omega)).mono (by intro l; omega)⟩
  ite1 := by
    intro brk cont c t k cc v k1 ct k2 hc it
    obtain ⟨nl, le, -⟩ := (local_rules.ofE hc).shape
    -- `k1`, `[k1 + 2, k2)`, `k1 + 1`
    refine ⟨by omega, LabelsIn.mono (((LabelsIn.noLabels_append nl ((LabelsIn.label k1).cons rfl)).append it.2
      (by intro l; omega)).append (.label (k1 + 1)) (by intro l; omega)) (by intro l; omega)⟩
  ite2 := by
    intro brk cont c t e k cc v k1 ct k2 ce k3 hc it ie
    obtain ⟨nl, le, -⟩ := (local_rules.ofE hc).shape
    -- `k1`, `[k1 + 3, k2)`, `k1 + 1`, `[k2, k3)`, `k1 + 2`
    refine ⟨by omega, LabelsIn.mono (((((LabelsIn.noLabels_append nl ((LabelsIn.label k1).cons rfl)).append it.2
      (by intro l; omega)).append ((LabelsIn.label (k1 + 1)).cons rfl) (by intro l; omega)).append ie.2
      (by intro l; omega)).append (.label (k1 + 2)) (by intro l; omega)) (by intro l; omega)⟩
  whileL := by
    intro brk cont c body k cc v k1 cb k2 hc ib
    obtain ⟨nl, le, -⟩ := (local_rules.ofE hc).shape
    -- `k`, `k + 1`, `[k1, k2)` with `k + 3 ≤ k1`, `k + 2`
    refine ⟨by omega, LabelsIn.mono (((((LabelsIn.label k).append_noLabels nl).append
      ((LabelsIn.label (k + 1)).cons rfl) (by intro l; omega)).append ib.2 (by intro l; omega)).append
      ((LabelsIn.label (k + 2)).cons rfl) (by intro l; omega)) (by intro l; omega)⟩
  doL := by
    intro brk cont body c k cb k1 cc v k2 ib hc
    obtain ⟨nl, le, -⟩ := (local_rules.ofE hc).shape
    -- `k`, `[k + 3, k1)`, `k + 1`, `k + 2`
    refine ⟨by omega, LabelsIn.mono (((((LabelsIn.label k).append ib.2 (by intro l; omega)).append
      (.label (k + 1)) (by intro l; omega)).append_noLabels nl).append ((LabelsIn.label (k + 2)).cons rfl)
      (by intro l; omega)) (by intro l; omega)⟩
  forL := by
    intro brk cont init c next body k ci k0 cc v k1 cb k2 cn vn k3 ii hc ib hn
    obtain ⟨nlc, lec⟩ := lowerOptE_shapeG hc
    obtain ⟨nln, len⟩ := lowerOptE_shapeG hn
    -- `[k, k0)`, `k0`, `k0 + 1`, `[k1, k2)` with `k0 + 4 ≤ k1`, `k0 + 2`, `k0 + 3`
    refine ⟨by omega, LabelsIn.mono ((((((((LabelsIn.append ii.2 (.label k0) (by intro l; omega)).append_noLabels
      nlc).append ((LabelsIn.label (k0 + 1)).cons (labelOf_forBranch ..)) (by intro l; omega)).append ib.2
      (by intro l; omega)).append (.label (k0 + 2)) (by intro l; omega)).append_noLabels nln).append
      ((LabelsIn.label (k0 + 3)).cons rfl) (by intro l; omega))) (by intro l; omega)⟩
  brk _ _ k := ⟨Nat.le_succ k, .of_noLabels (All.one rfl) _⟩
  cont _ _ k := ⟨Nat.le_succ k, .of_noLabels (All.one rfl) _⟩
  retNone _ _ k := ⟨Nat.le_succ k, .of_noLabels (All.one rfl) _⟩
  retSome _ _ := fun he => by
    obtain ⟨nl, le, -⟩ := (local_rules.ofE he).shape
    exact ⟨by omega, .of_noLabels (All.snoc nl rfl) _⟩

theorem lowerS_shapeG (s : Stmt) (brk cont : Option Nat) (k : Nat) (c : List Instr) (k' : Nat)
    (h : lowerS brk cont s k = (c, k')) : k ≤ k' ∧ LabelsIn c fun l => k ≤ l ∧ l < k' :=
  shape_rules.ofS h

theorem lowerFn_labels_nodup (f : FnDef) : (labels (lowerFn f).code).Nodup :=
  (shape_rules.lowerS f.body none none 0).2.2

theorem okVar_inv {x : Expr} (h : okVar x = true) :
    ∃ sc key ty, x = .var sc key ty ∧ ty.isScalar = true ∧ keyOK sc key = true := by
  cases x <;> simp [okVar] at h
  exact ⟨_, _, _, rfl, h.1, h.2⟩

end Lower
end Nsl
