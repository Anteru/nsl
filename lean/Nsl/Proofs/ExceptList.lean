/-!
# Partial operations mapped over lists

`castList`, `rowsMapR`, `matMulVec`, … and, over two lists in step, `zipBin`, `rowsZip` are recursions of one shape that
stop at the first error.  What such a function returns is fixed by the two equations of the recursion (`h0`, `h1`).
-/
namespace Nsl

variable {ε α α' β : Type}

theorem bind_ok {x : Except ε α} {k : α → Except ε β} {z : β} (h : (x >>= k) = .ok z) :
    ∃ y, x = .ok y ∧ k y = .ok z := by
  cases x with
  | error e => cases h
  | ok y => exact ⟨y, rfl, h⟩

theorem mapE_get {f : List α → Except ε (List β)} {g : α → Except ε β} (h0 : f [] = .ok [])
    (h1 : ∀ x xs, f (x :: xs) = g x >>= fun y => f xs >>= fun ys => .ok (y :: ys)) :
    ∀ {xs zs}, f xs = .ok zs →
      zs.length = xs.length ∧ ∀ i (hx : i < xs.length) (hz : i < zs.length), g xs[i] = .ok zs[i]
  | [], zs, h => by
    rw [h0] at h; cases h
    exact ⟨rfl, fun i hx => absurd hx (Nat.not_lt_zero i)⟩
  | x :: xs, zs, h => by
    rw [h1] at h
    obtain ⟨y, hy, h⟩ := bind_ok h
    obtain ⟨ys, hys, h⟩ := bind_ok h
    cases h
    obtain ⟨hl, hi⟩ := mapE_get h0 h1 hys
    refine ⟨congrArg (· + 1) hl, fun i hx hz => ?_⟩
    cases i with
    | zero => exact hy
    | succ j => exact hi j (Nat.lt_of_succ_lt_succ hx) (Nat.lt_of_succ_lt_succ hz)

theorem zipE_get {f : List α → List α' → Except ε (List β)} {g : α → α' → Except ε β}
    (hl : ∀ ys, f [] ys = .ok []) (hr : ∀ xs, f xs [] = .ok [])
    (h1 : ∀ x xs y ys, f (x :: xs) (y :: ys) = g x y >>= fun z => f xs ys >>= fun zs => .ok (z :: zs)) :
    ∀ {xs ys zs}, f xs ys = .ok zs → zs.length = min xs.length ys.length ∧
      ∀ i (hx : i < xs.length) (hy : i < ys.length) (hz : i < zs.length), g xs[i] ys[i] = .ok zs[i]
  | [], ys, zs, h => by
    rw [hl] at h; cases h
    exact ⟨(Nat.zero_min _).symm, fun i hx => absurd hx (Nat.not_lt_zero i)⟩
  | x :: xs, [], zs, h => by
    rw [hr] at h; cases h
    exact ⟨(Nat.min_zero _).symm, fun i _ hy => absurd hy (Nat.not_lt_zero i)⟩
  | x :: xs, y :: ys, zs, h => by
    rw [h1] at h
    obtain ⟨z, hz, h⟩ := bind_ok h
    obtain ⟨zr, hzr, h⟩ := bind_ok h
    cases h
    obtain ⟨hlen, hi⟩ := zipE_get hl hr h1 hzr
    refine ⟨(congrArg (· + 1) hlen).trans (Nat.succ_min_succ ..).symm, fun i hx hy hz' => ?_⟩
    cases i with
    | zero => exact hz
    | succ j => exact hi j (Nat.lt_of_succ_lt_succ hx) (Nat.lt_of_succ_lt_succ hy) (Nat.lt_of_succ_lt_succ hz')

theorem mapE_all {g : α → Except ε β} {Q : β → Prop} {xs : List α} {zs : List β}
    (h : zs.length = xs.length ∧ ∀ i (hx : i < xs.length) (hz : i < zs.length), g xs[i] = .ok zs[i])
    (hg : ∀ x ∈ xs, ∀ z, g x = .ok z → Q z) : zs.length = xs.length ∧ ∀ z ∈ zs, Q z := by
  refine ⟨h.1, fun z hz => ?_⟩
  obtain ⟨i, hlt, rfl⟩ := List.getElem_of_mem hz
  exact hg _ (List.getElem_mem (h.1 ▸ hlt)) _ (h.2 i (h.1 ▸ hlt) hlt)

theorem zipE_all {g : α → α' → Except ε β} {Q : β → Prop} {xs : List α} {ys : List α'} {zs : List β}
    (h : zs.length = min xs.length ys.length ∧
      ∀ i (hx : i < xs.length) (hy : i < ys.length) (hz : i < zs.length), g xs[i] ys[i] = .ok zs[i])
    (hg : ∀ x ∈ xs, ∀ y ∈ ys, ∀ z, g x y = .ok z → Q z) : zs.length = min xs.length ys.length ∧ ∀ z ∈ zs, Q z := by
  refine ⟨h.1, fun z hz => ?_⟩
  obtain ⟨i, hlt, rfl⟩ := List.getElem_of_mem hz
  have hx : i < xs.length := Nat.lt_of_lt_of_le (h.1 ▸ hlt) (Nat.min_le_left ..)
  have hy : i < ys.length := Nat.lt_of_lt_of_le (h.1 ▸ hlt) (Nat.min_le_right ..)
  exact hg _ (List.getElem_mem hx) _ (List.getElem_mem hy) _ (h.2 i hx hy hlt)

end Nsl
