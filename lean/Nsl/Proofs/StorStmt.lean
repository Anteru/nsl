import Nsl.Proofs.StorEval
/-!
# Storage core: `Sim.Post` at the storage invariant, written out

The statement level of the storage core is `Sim.ssim_succ` at `Stor.disc Γ` and needs nothing from here.  `SPostS Γ` is
`Sim.Post` with the storage-core invariant filled in (`FrOKS Γ`, no alias in globals or returned values),
and `SPostS.relabel` is `Sim.Post.relabel` for it.
-/
namespace Nsl
namespace Stor
open Core VM CoreSem Lower Sim

def SPostS (Γ : Env) (P : Program) (code : List Instr) (brk cont : Option Nat) (c0 : Cfg) (endPos : Nat) : SOut → Prop
  | .normal fr' g' => ∃ ρ', Steps P code c0 (endPos, vf ρ' fr', g') ∧ FrOKS Γ fr' ∧ MapOK g'
  | .brk fr' g' => ∃ b p ρ', brk = some b ∧ labelPos code b = some p ∧
      Steps P code c0 (p, vf ρ' fr', g') ∧ FrOKS Γ fr' ∧ MapOK g'
  | .cont fr' g' => ∃ b p ρ', cont = some b ∧ labelPos code b = some p ∧
      Steps P code c0 (p, vf ρ' fr', g') ∧ FrOKS Γ fr' ∧ MapOK g'
  | .ret v fr' g' => Returns P code c0 v g' fr'.args ∧ Val.isPtr v = false ∧ MapOK g'
  | .fail _ => True

variable {Γ : Env} {P : Program} {code : List Instr} {brk cont : Option Nat}

theorem SPostS.relabel {brk' cont' : Option Nat} {c0 : Cfg} {e : Nat} {out : SOut}
    (h : SPostS Γ P code brk cont c0 e out) (hn : match out with | .brk _ _ => False | .cont _ _ => False | _ => True) :
    SPostS Γ P code brk' cont' c0 e out := by
  cases out with
  | brk fr' g' => cases hn
  | cont fr' g' => cases hn
  | _ => exact h

end Stor
end Nsl
