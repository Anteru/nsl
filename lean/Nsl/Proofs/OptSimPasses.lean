import Nsl.Proofs.OptSimConv
import Nsl.Proofs.OptSimPres
/-!
# The two passes satisfy the hypotheses of the generic simulation; composition to `optProgram`
-/
namespace Nsl
namespace Opt
open VM WF

theorem constVal_noPtr {o : Opd} {v : Val} (h : constVal o = some v) : Val.isPtr v = false := by
  cases o <;> cases h <;> rfl

theorem cc_removedSound (code : List Instr) : RemovedSound ccDecide code := by
  intro pc ins d o hc hd fr fr' g _ _ _
  obtain ⟨ty, a, rfl, hf⟩ := ccDecide_some hd
  obtain ⟨x, y, hx, hy, hcast⟩ := foldCast_sound hf
  refine ⟨y, fun cf => step_cast hc (evalOpd_const hx) (constVal_noPtr hx) hcast, evalOpd_const hy, ?_⟩
  intro s hs
  subst hs
  cases foldCast_noRefs hf

/-- A removed load after a store: the load succeeds and reads the value of the stored operand, whose rewired
image evaluates to the same value in the optimised frame. -/
theorem las_removedSound {code : List Instr} (hnd : (defs code).Nodup) (hf : forwardOK none code = true) :
    RemovedSound lasDecide code := by
  intro pc ins d o hc hd fr fr' g _ _ hb
  obtain ⟨ty, sc, var, sc', src, rfl, hprev, rfl⟩ := lasDecide_some hd
  obtain ⟨rfl, hna⟩ := forwardOK_at hf hc hprev
  obtain ⟨⟨root, v, hroot, hread, hsrc⟩, hsrcseen⟩ := hb.2 sc' var src hprev
  refine ⟨v, fun cf => step_load hc hroot hread hna, ?_⟩
  cases src with
  | ref s =>
    -- `s` was defined before `pc`, so its image is final already
    have hseen := hsrcseen s rfl
    obtain ⟨y, hy, hey, hrefs⟩ := hb.1 s hseen
    have : substOpd (substAt lasDecide code pc) (.ref s) = substOpd (finalSubst lasDecide code) (.ref s) := by
      rw [substOpd, substOpd, stable_at lasDecide_decideDef hnd hc s
        ((seenOf_sub_defs _ [] s hseen).resolve_left List.not_mem_nil)]
    rw [this, hey]
    rw [evalOpd, hy] at hsrc
    exact ⟨hsrc, hrefs⟩
  | cInt i => exact ⟨hsrc, nofun⟩
  | cFlt f => exact ⟨hsrc, nofun⟩

theorem optOK_cc {f : Func} (h : optOK f = true) : FnOK ccDecide f.code := by
  simp only [optOK, Bool.and_eq_true] at h
  exact ⟨h.1.1, defsDistinct_nodup h.2, cc_removedSound _⟩

/-- the side conditions for the intermediate code (after the constant-cast pass) follow by preservation -/
theorem optOK_las {f : Func} (h : optOK f = true) : FnOK lasDecide (passFn ccDecide f).code := by
  simp only [optOK, Bool.and_eq_true] at h
  have hnd := defsDistinct_nodup h.2
  have hnd' : (defs (pass ccDecide f.code)).Nodup := pass_defs_nodup ccDecide hnd
  exact ⟨pass_blockLocal ccDecide_decideDef ccDecide_img h.1.1 hnd, hnd', las_removedSound hnd' h.1.2⟩

theorem optOK_las_all {P : Program} (hok : ∀ f ∈ P.funcs, optOK f = true) :
    ∀ f1 ∈ (passProgram ccDecide P).funcs, FnOK lasDecide f1.code := by
  intro f1 hf1
  obtain ⟨f, hf, rfl⟩ := List.mem_map.1 hf1
  exact optOK_las (hok f hf)

theorem optProgram_invoke_sim (P : Program) (hok : ∀ f ∈ P.funcs, optOK f = true)
    (fuel : Nat) (name : String) (args : List Val) (g : Globals)
    (hne : invoke P fuel name args g ≠ .fail .timeout) :
    invoke (optProgram P) fuel name args g = invoke P fuel name args g := by
  have h1 := pass_invoke_sim ccDecide_decideDef P (fun f hf => optOK_cc (hok f hf)) fuel name args g hne
  have h2 := pass_invoke_sim lasDecide_decideDef (passProgram ccDecide P) (optOK_las_all hok) fuel name args g
    (by rw [h1]; exact hne)
  rw [optProgram_eq, h2, h1]

theorem optProgram_invoke_conv (P : Program) (hok : ∀ f ∈ P.funcs, optOK f = true)
    (n : Nat) (name : String) (args : List Val) (g : Globals)
    (hne : invoke (optProgram P) n name args g ≠ .fail .timeout) :
    ∃ F, n ≤ F ∧ invoke P F name args g = invoke (optProgram P) n name args g := by
  rw [optProgram_eq] at hne ⊢
  obtain ⟨F1, h1⟩ := pass_invoke_conv lasDecide_decideDef (passProgram ccDecide P) (optOK_las_all hok) n name args g hne
  obtain ⟨F, h2⟩ := pass_invoke_conv ccDecide_decideDef P (fun f hf => optOK_cc (hok f hf)) F1 name args g
    (by rw [h1]; exact hne)
  refine ⟨max F n, Nat.le_max_right _ _, ?_⟩
  rw [invoke_mono_ne P name args g F (max F n) (Nat.le_max_left _ _) (by rw [h2, h1]; exact hne), h2, h1]

end Opt
end Nsl
