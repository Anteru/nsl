import Nsl.Model.Names
import Nsl.Proofs.Names
import Nsl.Proofs.NamesBinding

/-!
C12, stage 2: the lexically scoped run against the static table.  `Le` compares the run's chain
with the chain the table was computed from; `EvS f T` says every event `f` logs is in the table.
-/

namespace Nsl.Names

open Spec

theorem occs_slots (s : S) : ∀ k, (occs s k).map Prod.fst = List.range' k (size s) := by
  induction s with
  | forL i b ih =>
    intro k
    simp only [occs, size, List.map_cons, ih]
    rw [Nat.add_comm 1 (size b), List.range'_succ]
  | _ => intro k; simp [occs, size, *]

theorem table_slots (s : S) : ∀ k ch,
    (table s k ch).map Prod.fst = ((occs s k).filter (fun o => o.2.1)).map Prod.fst := by
  induction s with
  | forL i b ih => intro k ch; cases i <;> simp [table, occs, ih]
  | _ => intro k ch; simp [table, occs, *]

theorem table_nodup (s : S) (k : Nat) (ch : List Scope) :
    ((table s k ch).map Prod.fst).Nodup := by
  rw [table_slots]
  have h : ((occs s k).map Prod.fst).Nodup := by
    rw [occs_slots]; exact List.nodup_range'
  exact List.Nodup.sublist (List.Sublist.map _ List.filter_sublist) h

theorem withOracle_env {ε : Type} {f : Nat → St ε → St ε} (h : ∀ c st, (f c st).env = st.env)
    (st : St ε) : (withOracle f st).env = st.env := by
  unfold withOracle
  split
  · exact h 0 st
  · exact h _ _

theorem iter_env {ε : Type} {f : St ε → St ε} (h : ∀ st, (f st).env = st.env) :
    ∀ n st, (iter f n st).env = st.env
  | 0, _ => rfl
  | n + 1, st => (iter_env h n (f st)).trans (h st)

theorem scopedRun_env (f : St (List Scope) → St (List Scope)) (st : St (List Scope)) :
    (scopedRun f st).env = st.env := rfl

theorem extend_nil {ch : List Scope} (h : ch ≠ []) : extend [] ch = ch := by
  cases ch with
  | nil => exact absurd rfl h
  | cons sc r => rfl

theorem extend_extend (A B : Scope) {ch : List Scope} (h : ch ≠ []) :
    extend B (extend A ch) = extend (B ++ A) ch := by
  cases ch with
  | nil => exact absurd rfl h
  | cons sc r => simp [extend]

theorem runL_env (s : S) : ∀ k st, st.env ≠ [] → (runL s k st).env = extend (addsT s k) st.env := by
  induction s with
  | decl x => exact fun k st _ => bindInner_env x _ st
  | seq a b iha ihb =>
    intro k st h
    simp only [runL, addsT]
    rw [ihb _ _ (by rw [iha k st h]; exact extend_ne_nil _ _), iha k st h, extend_extend _ _ h]
  | whileL s ih =>
    intro k st h
    simp only [runL, addsT, extend_nil h]
    exact withOracle_env (fun c st => iter_env (fun st => scopedRun_env _ st) c st) st
  | doL s ih =>
    intro k st h
    simp only [runL, addsT, extend_nil h]
    exact withOracle_env (fun c st => iter_env (fun st => scopedRun_env _ st) (c + 1) st) st
  | forL i b ih =>
    intro k st h
    cases i <;> simp only [runL, addsT, extend_nil h] <;>
      exact withOracle_env (fun c st => scopedRun_env _ st) st
  | ite a b iha ihb =>
    intro k st h
    simp only [runL, addsT, extend_nil h]
    exact withOracle_env (fun c st => scopedRun_env _ st) st
  | _ => intro k st h; simp only [runL, addsT, extend_nil h]; rfl

theorem addsT_lookup (s : S) : ∀ k x t, List.lookup x (addsT s k) = some t → x ∈ adds s := by
  induction s with
  | decl y =>
    intro k x t h
    by_cases hxy : x = y
    · simp [adds, hxy]
    · simp [addsT, lookup_cons_ne hxy] at h
  | seq a b iha ihb =>
    intro k x t h
    simp only [addsT, List.lookup_append, Option.or_eq_some_iff] at h
    exact List.mem_append.2 (h.symm.imp (fun h => iha _ _ _ h.2) (ihb _ _ _))
  | _ => intro k x t h; simp [addsT] at h

theorem adds_sub_locals (s : S) : ∀ x, x ∈ adds s → x ∈ locals s := by
  induction s with
  | decl y => exact fun _ h => h
  | seq a b iha ihb => exact fun x h => List.mem_append.2 ((List.mem_append.1 h).imp (iha x) (ihb x))
  | _ => intro x h; simp [adds] at h

/-- Every name the dynamic chain resolves is in `V`, and the static chain resolves it alike. -/
def Le (V : List String) (d c : List Scope) : Prop :=
  ∀ x t, lookupChain d x = some t → x ∈ V ∧ lookupChain c x = some t

theorem Le.push {V d c} (h : Le V d c) : Le V ([] :: d) ([] :: c) := by
  intro x t hx
  rw [lookupChain_nil_cons] at hx ⊢
  exact h x t hx

theorem Le.pop {V d c} (h : Le V d c) : Le V ([] :: d) c :=
  fun x t hx => h x t (by rwa [lookupChain_nil_cons] at hx)

theorem Le.extendBoth {V W d c} {A : Scope} (h : Le V d c)
    (hA : ∀ x t, List.lookup x A = some t → x ∈ W) : Le (V ++ W) (extend A d) (extend A c) := by
  intro x t hx
  rw [lookupChain_extend] at hx ⊢
  cases hl : List.lookup x A with
  | some u =>
    rw [hl] at hx
    exact ⟨List.mem_append_right _ (hA x u hl), hx⟩
  | none =>
    rw [hl] at hx
    exact ⟨List.mem_append_left _ (h x t hx).1, (h x t hx).2⟩

theorem Le.push_right {V d c} {A : Scope} (h : Le V d c)
    (hA : ∀ x t, List.lookup x A = some t → x ∉ V) : Le V ([] :: d) (A :: c) := by
  intro x t hx
  rw [lookupChain_nil_cons] at hx
  obtain ⟨h1, h2⟩ := h x t hx
  refine ⟨h1, ?_⟩
  rw [lookupChain_cons]
  cases hl : List.lookup x A with
  | some u => exact absurd h1 (hA x u hl)
  | none => exact h2

theorem Le.bind {V d c} {x : String} {t : Tag} (h : Le V d c) :
    Le (V ++ [x]) (extend [(x, t)] ([] :: d)) ([(x, t)] :: c) :=
  h.push.extendBoth (A := [(x, t)]) fun y _ hy => by
    by_cases hyx : y = x
    · exact List.mem_singleton.2 hyx
    · rw [lookup_cons_ne hyx] at hy; cases hy

/-- The table has an entry for the use slot, and if the run resolved the use, to that entry. -/
def Good (e : Event) (T : List Event) : Prop :=
  ∃ d', (e.1, d') ∈ T ∧ (e.2 = none ∨ e.2 = d')

theorem Good.left {e : Event} {T T' : List Event} (h : Good e T) : Good e (T ++ T') := by
  obtain ⟨d', h1, h2⟩ := h
  exact ⟨d', List.mem_append_left _ h1, h2⟩

theorem Good.right {e : Event} {T T' : List Event} (h : Good e T') : Good e (T ++ T') := by
  obtain ⟨d', h1, h2⟩ := h
  exact ⟨d', List.mem_append_right _ h1, h2⟩

def EvS (V : List String) (f : St (List Scope) → St (List Scope))
    (T : List Scope → List Event) : Prop :=
  ∀ dyn ch, dyn.env ≠ [] → Le V dyn.env ch →
    ∀ e ∈ (f dyn).trace, e ∈ dyn.trace ∨ Good e (T ch)

theorem EvS.withOracle {V T} {f : Nat → St (List Scope) → St (List Scope)}
    (h : ∀ c, EvS V (f c) T) : EvS V (withOracle f) T := by
  intro dyn ch h1 h3 e he
  unfold Names.withOracle at he
  split at he
  · exact h 0 dyn ch h1 h3 e he
  · next c o _ => exact h c { dyn with oracle := o } ch h1 h3 e he

theorem EvS.iter {V T} {f : St (List Scope) → St (List Scope)} (hf : ∀ st, (f st).env = st.env)
    (h : EvS V f T) : ∀ n, EvS V (iter f n) T
  | 0 => fun _ _ _ _ _ he => Or.inl he
  | n + 1 => fun dyn ch h1 h3 e he =>
    (EvS.iter hf h n (f dyn) ch (hf dyn ▸ h1) (hf dyn ▸ h3) e he).elim (h dyn ch h1 h3 e) Or.inr

theorem EvS.scoped {V T} {f : St (List Scope) → St (List Scope)} (h : EvS V f T) :
    EvS V (scopedRun f) (fun ch => T ([] :: ch)) :=
  fun dyn ch _ h3 e he =>
    h { dyn with env := [] :: dyn.env } ([] :: ch) (List.cons_ne_nil _ _) h3.push e he

/-- A loop body: one scope per iteration at run time, none of its own in the table. -/
theorem EvS.scoped_left {V T} {f : St (List Scope) → St (List Scope)} (h : EvS V f T) :
    EvS V (scopedRun f) T :=
  fun dyn ch _ h3 e he =>
    h { dyn with env := [] :: dyn.env } ch (List.cons_ne_nil _ _) h3.pop e he

theorem static_sim (s : S) : ∀ k V, ok V s = true → EvS V (runL s k) (table s k) := by
  induction s with
  | decl x =>
    intro k V _ dyn ch _ _ e he
    exact Or.inl (bindInner_trace x _ dyn ▸ he)
  | use x =>
    intro k V _ dyn ch _ h3 e he
    rcases List.mem_append.1 he with he | he
    · exact Or.inl he
    · rw [List.mem_singleton.1 he]
      refine Or.inr ⟨lookupChain ch x, List.mem_singleton.2 rfl, ?_⟩
      cases hl : lookupChain dyn.env x with
      | none => exact Or.inl rfl
      | some t => exact Or.inr (h3 x t hl).2.symm
  | skip => exact fun k V _ dyn ch _ _ e he => Or.inl he
  | seq a b iha ihb =>
    intro k V h dyn ch h1 h3 e he
    have henv := runL_env a k dyn h1
    -- after `a`, both chains carry `a`'s bindings in their innermost scope
    rcases ihb (k + size a) _ (ok_seq.1 h).2 (runL a k dyn) (extend (addsT a k) ch)
        (henv ▸ extend_ne_nil _ _)
        (henv ▸ h3.extendBoth (addsT_lookup a k)) e he with h' | h'
    · exact (iha k V (ok_seq.1 h).1 dyn ch h1 h3 e h').imp_right Good.left
    · exact Or.inr h'.right
  | block s ih => exact fun k V h => (ih k V h).scoped
  | ite t e iht ihe =>
    intro k V h
    refine EvS.withOracle fun c dyn ch h1 h3 ev hev => ?_
    by_cases hc : c = 0
    · simp only [if_pos hc] at hev
      -- the else branch runs without the then branch's declarations, the table has them in
      -- scope; they are new names, so they hide nothing the run can see
      have hle : Le V ([] :: dyn.env) (addsT t k :: ch) :=
        h3.push_right fun x u hx =>
          ok_locals t V (ok_ite.1 h).1 x (adds_sub_locals t x (addsT_lookup t k x u hx))
      exact (ihe (k + size t) V (ok_ite_else h) { dyn with env := [] :: dyn.env } _
        (List.cons_ne_nil _ _) hle ev hev).imp_right Good.right
    · simp only [if_neg hc] at hev
      exact (iht k V (ok_ite.1 h).1 { dyn with env := [] :: dyn.env } _
        (List.cons_ne_nil _ _) h3.push ev hev).imp_right Good.left
  | forL i b ih =>
    intro k V h
    cases i with
    | none =>
      exact EvS.withOracle fun n =>
        (EvS.iter (fun st => scopedRun_env _ st) (ih (k + 1) V h).scoped_left n).scoped
    | some i =>
      refine EvS.withOracle fun n dyn ch h1 h3 e he => ?_
      have hb := EvS.iter (fun st => scopedRun_env _ st) (ih (k + 1) _ (ok_for.1 h).2).scoped_left n
      have := hb (bindInner i (.loc k) { dyn with env := [] :: dyn.env }) ([(i, .loc k)] :: ch)
        (bindInner_env .. ▸ extend_ne_nil _ _) (bindInner_env .. ▸ h3.bind) e he
      rwa [bindInner_trace] at this
  | whileL b ih =>
    exact fun k V h => EvS.withOracle fun n =>
      EvS.iter (fun st => scopedRun_env _ st) (ih k V h).scoped n
  | doL b ih =>
    exact fun k V h => EvS.withOracle fun n =>
      EvS.iter (fun st => scopedRun_env _ st) (ih k V h).scoped (n + 1)

theorem le_init (m : Mod) (f : Fn) :
    Le (m.globals ++ f.params) [paramScope f, globalScope m] [paramScope f, globalScope m] :=
  fun x _ hx => ⟨(init_lookup m f x).1 (Option.isSome_of_eq_some hx), hx⟩

end Nsl.Names
