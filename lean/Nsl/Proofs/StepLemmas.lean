import Nsl.Proofs.VMSteps
/-!
# One lemma per scalar-core instruction: what `stepI` does when its premises hold

and, read backwards, that the premises held if the step did not fail.
-/
namespace Nsl
namespace VM

def Val.isPtr : Val → Bool
  | .ptr _ _ => true
  | _ => false

theorem evalVal_of_noPtr {fr : Frame} {g : Globals} {o : Opd} {v : Val}
    (h : evalOpd fr o = .ok v) (hp : Val.isPtr v = false) : evalVal fr g o = .ok v := by
  unfold evalVal
  rw [h]
  cases v with
  | ptr r p => cases hp
  | _ => rfl

theorem evalVal_error {fr : Frame} {g : Globals} {o : Opd} {e : Err} (h : evalOpd fr o = .error e) :
    evalVal fr g o = .error e := by
  unfold evalVal
  rw [h]
  rfl

/-- Every operand evaluates (in the registers of `fr`) to the corresponding non-pointer value. -/
def OpdsEval (fr : Frame) : List Opd → List Val → Prop
  | [], [] => True
  | o :: os, v :: vs => (evalOpd fr o = .ok v ∧ Val.isPtr v = false) ∧ OpdsEval fr os vs
  | _, _ => False

theorem evalVals_of_noPtr {fr : Frame} {g : Globals} : ∀ {os : List Opd} {vs : List Val},
    OpdsEval fr os vs → evalVals fr g os = .ok vs
  | [], [], _ => rfl
  | o :: os, v :: vs, h => by
    obtain ⟨⟨h1, h2⟩, h3⟩ := h
    simp only [evalVals, evalVal_of_noPtr h1 h2, evalVals_of_noPtr h3, bind, Except.bind]
  | [], _ :: _, h => by cases h
  | _ :: _, [], h => by cases h

theorem writeRoot_regs {fr : Frame} {g : Globals} {r : Root} {v : Val} {f1 : Frame} {g1 : Globals}
    (h : writeRoot fr g r v = .ok (f1, g1)) : f1.regs = fr.regs := by
  cases r <;> simp only [writeRoot] at h
  · cases h; rfl
  · split at h
    · cases h; rfl
    · cases h
  · cases h; rfl

theorem readRoot_writeRoot {fr : Frame} {g : Globals} {r : Root} {v : Val} {fr1 : Frame} {g1 : Globals}
    (h : writeRoot fr g r v = .ok (fr1, g1)) : readRoot fr1 g1 r = .ok v := by
  cases r <;> simp only [writeRoot] at h
  · cases h; simp only [readRoot, Map.get_set_eq]
  · split at h
    · rename_i hi
      cases h
      simp only [readRoot, List.getElem?_set_self hi]
    · cases h
  · cases h; simp only [readRoot, Map.get_set_eq]

theorem evalOpd_regs {fr1 fr2 : Frame} (h : fr1.regs = fr2.regs) (o : Opd) : evalOpd fr1 o = evalOpd fr2 o := by
  cases o <;> simp only [evalOpd, h]

theorem evalOpd_set_ne {fr1 fr : Frame} {d : Nat} {x : Val} (h : fr1.regs = Map.set fr.regs d x) (o : Opd)
    (hne : ∀ s, o = .ref s → s ≠ d) : evalOpd fr1 o = evalOpd fr o := by
  cases o with
  | ref s => simp only [evalOpd, h, Map.get_set_ne _ _ _ _ (Ne.symm (hne s rfl))]
  | cInt i => rfl
  | cFlt f => rfl

variable {cf : String → List Val → Globals → Res} {code : List Instr} {pc : Nat} {fr : Frame} {g : Globals}

theorem step_load {dst : Nat} {ty : ITy} {sc : Scope} {var : VarKey} {root : Root} {v : Val}
    (hc : code[pc]? = some (.load dst ty sc var)) (hroot : rootOf sc var = .ok root)
    (hr : readRoot fr g root = .ok v) (hna : ty.isAggregate = false) :
    stepI cf code pc fr g = .next (pc + 1) (setReg fr dst v) g := by
  rw [stepI_load hc, liftE_ok hroot, liftE_ok hr, hna]
  rfl

theorem step_store {sc : Scope} {var : VarKey} {src : Opd} {root : Root} {v : Val} {fr' : Frame} {g' : Globals}
    (hc : code[pc]? = some (.store sc var src)) (hroot : rootOf sc var = .ok root)
    (hv : evalOpd fr src = .ok v) (hp : Val.isPtr v = false) (hw : writeRoot fr g root v = .ok (fr', g')) :
    stepI cf code pc fr g = .next (pc + 1) fr' g' := by
  rw [stepI_store hc, liftE_ok hroot, liftE_ok hv]
  cases v with
  | ptr r p => cases hp
  | _ => simp only [liftE, hw]

theorem step_newVar {dst : Nat} {ty : ITy} {name : String}
    (hc : code[pc]? = some (.newVar dst ty name)) (hna : ty.isAggregate = false) :
    stepI cf code pc fr g =
      .next (pc + 1) (setReg { fr with locals := Map.set fr.locals name (createInstance ty) } dst (createInstance ty)) g := by
  rw [stepI_newVar hc, hna]
  rfl

theorem step_bin {dst : Nat} {op : BinOp} {ty : ITy} {a b : Opd} {x y z : Val}
    (hc : code[pc]? = some (.bin dst op ty a b))
    (ha : evalOpd fr a = .ok x) (hpa : Val.isPtr x = false)
    (hb : evalOpd fr b = .ok y) (hpb : Val.isPtr y = false)
    (hz : binExec op ty x y = .ok z) :
    stepI cf code pc fr g = .next (pc + 1) (setReg fr dst z) g := by
  rw [stepI_bin hc, liftE_ok (evalVal_of_noPtr ha hpa), liftE_ok (evalVal_of_noPtr hb hpb), liftE_ok hz]

theorem step_cast {dst : Nat} {ty : ITy} {a : Opd} {x z : Val}
    (hc : code[pc]? = some (.cast dst ty a))
    (ha : evalOpd fr a = .ok x) (hpa : Val.isPtr x = false) (hz : castExec ty x = .ok z) :
    stepI cf code pc fr g = .next (pc + 1) (setReg fr dst z) g := by
  rw [stepI_cast hc, liftE_ok (evalVal_of_noPtr ha hpa), liftE_ok hz]

theorem step_br {l p : Nat} (hc : code[pc]? = some (.br l)) (hl : labelPos code l = some p) :
    stepI cf code pc fr g = .next p fr g := by
  rw [stepI_br hc, jump, hl]

theorem step_brc_true {o : Opd} {t f p : Nat} {v : Val} (hc : code[pc]? = some (.brc o t f))
    (hv : evalOpd fr o = .ok v) (hp : Val.isPtr v = false) (ht : v.truthy = true)
    (hl : labelPos code t = some p) :
    stepI cf code pc fr g = .next p fr g := by
  rw [stepI_brc hc, liftE_ok (evalVal_of_noPtr hv hp), if_pos ht, jump, hl]

theorem step_brc_false {o : Opd} {t f p : Nat} {v : Val} (hc : code[pc]? = some (.brc o t f))
    (hv : evalOpd fr o = .ok v) (hp : Val.isPtr v = false) (ht : v.truthy = false)
    (hl : labelPos code f = some p) :
    stepI cf code pc fr g = .next p fr g := by
  rw [stepI_brc hc, liftE_ok (evalVal_of_noPtr hv hp), if_neg (by rw [ht]; exact Bool.false_ne_true), jump, hl]

theorem step_ret_some {o : Opd} {v : Val} (hc : code[pc]? = some (.ret (some o)))
    (hv : evalOpd fr o = .ok v) (hp : Val.isPtr v = false) :
    stepI cf code pc fr g = .ret v g fr.args := by
  rw [stepI_ret_some hc, liftE_ok (evalVal_of_noPtr hv hp)]

theorem step_call {dst : Nat} {ty : ITy} {fn : String} {args : List Opd} {vs : List Val} {v : Val}
    {g' : Globals} {as : List Val}
    (hc : code[pc]? = some (.call dst ty fn args)) (hvs : evalVals fr g args = .ok vs)
    (hcall : cf fn vs g = .done v g' as) :
    stepI cf code pc fr g = .next (pc + 1) (setReg fr dst v) g' := by
  rw [stepI_call hc, liftE_ok hvs, hcall]

theorem liftE_inv {α} {x : Except Err α} {k : α → StepOut} {out : StepOut} (h : liftE x k = out)
    (hn : ∀ e, out ≠ .fail e) : ∃ a, x = .ok a ∧ k a = out := by
  cases x with
  | ok a => exact ⟨a, rfl, h⟩
  | error e => exact absurd h.symm (hn e)

section
variable {out : StepOut}

theorem step_load_inv {dst : Nat} {ty : ITy} {sc : Scope} {var : VarKey}
    (hc : code[pc]? = some (.load dst ty sc var)) (hna : ty.isAggregate = false)
    (h : stepI cf code pc fr g = out) (hn : ∀ e, out ≠ .fail e) :
    ∃ root v, rootOf sc var = .ok root ∧ readRoot fr g root = .ok v ∧
      out = .next (pc + 1) (setReg fr dst v) g := by
  rw [stepI_load hc, hna] at h
  obtain ⟨root, hroot, h⟩ := liftE_inv h hn
  obtain ⟨v, hv, h⟩ := liftE_inv h hn
  exact ⟨root, v, hroot, hv, h.symm⟩

/-- the form in which the WebAssembly backend meets a load: there every variable is a parameter -/
theorem step_load_arg_inv {dst : Nat} {ty : ITy} {k : Nat}
    (hc : code[pc]? = some (.load dst ty .arg (.index k))) (hna : ty.isAggregate = false)
    (h : stepI cf code pc fr g = out) (hn : ∀ e, out ≠ .fail e) :
    ∃ v, fr.args[k]? = some v ∧ out = .next (pc + 1) (setReg fr dst v) g := by
  obtain ⟨root, v, hroot, hv, hout⟩ := step_load_inv hc hna h hn
  cases hroot
  rw [readRoot] at hv
  split at hv
  · rename_i ha; cases hv; exact ⟨v, ha, hout⟩
  · cases hv

theorem step_store_inv {sc : Scope} {var : VarKey} {src : Opd} (hc : code[pc]? = some (.store sc var src))
    (h : stepI cf code pc fr g = out) (hn : ∀ e, out ≠ .fail e) :
    ∃ root v fr' g', rootOf sc var = .ok root ∧ evalOpd fr src = .ok v ∧ Val.isPtr v = false ∧
      writeRoot fr g root v = .ok (fr', g') ∧ out = .next (pc + 1) fr' g' := by
  rw [stepI_store hc] at h
  obtain ⟨root, hroot, h⟩ := liftE_inv h hn
  obtain ⟨v, hv, h⟩ := liftE_inv h hn
  cases v with
  | ptr r p => exact absurd h.symm (hn _)
  | _ =>
    obtain ⟨⟨fr', g'⟩, hw, h⟩ := liftE_inv h hn
    exact ⟨root, _, fr', g', hroot, hv, rfl, hw, h.symm⟩

theorem step_store_arg_inv {k : Nat} {src : Opd}
    (hc : code[pc]? = some (.store .arg (.index k) src))
    (h : stepI cf code pc fr g = out) (hn : ∀ e, out ≠ .fail e) :
    ∃ v, evalOpd fr src = .ok v ∧ k < fr.args.length ∧
      out = .next (pc + 1) { fr with args := fr.args.set k v } g := by
  obtain ⟨root, v, fr', g', hroot, hv, _, hw, hout⟩ := step_store_inv hc h hn
  cases hroot
  rw [writeRoot] at hw
  split at hw
  · rename_i hk; cases hw; exact ⟨v, hv, hk, hout⟩
  · cases hw

theorem step_bin_inv {dst : Nat} {op : BinOp} {ty : ITy} {a b : Opd}
    (hc : code[pc]? = some (.bin dst op ty a b))
    (h : stepI cf code pc fr g = out) (hn : ∀ e, out ≠ .fail e) :
    ∃ x y z, evalVal fr g a = .ok x ∧ evalVal fr g b = .ok y ∧ binExec op ty x y = .ok z ∧
      out = .next (pc + 1) (setReg fr dst z) g := by
  rw [stepI_bin hc] at h
  obtain ⟨x, hx, h⟩ := liftE_inv h hn
  obtain ⟨y, hy, h⟩ := liftE_inv h hn
  obtain ⟨z, hz, h⟩ := liftE_inv h hn
  exact ⟨x, y, z, hx, hy, hz, h.symm⟩

theorem step_ret_some_inv {o : Opd} (hc : code[pc]? = some (.ret (some o)))
    (h : stepI cf code pc fr g = out) (hn : ∀ e, out ≠ .fail e) :
    ∃ v, evalVal fr g o = .ok v ∧ out = .ret v g fr.args := by
  rw [stepI_ret_some hc] at h
  obtain ⟨v, hv, h⟩ := liftE_inv h hn
  exact ⟨v, hv, h.symm⟩

end

theorem step_call_timeout {dst : Nat} {ty : ITy} {fn : String} {args : List Opd} {vs : List Val}
    (hc : code[pc]? = some (.call dst ty fn args)) (hvs : evalVals fr g args = .ok vs) :
    stepI cf code pc fr g = .fail .timeout ↔ cf fn vs g = .fail .timeout := by
  rw [stepI_call hc, liftE_ok hvs]
  cases cf fn vs g with
  | done v g' as => exact ⟨nofun, nofun⟩
  | fail e => exact ⟨fun h => by cases h; rfl, fun h => by cases h; rfl⟩

end VM
end Nsl
