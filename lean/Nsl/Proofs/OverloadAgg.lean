import Nsl.Model.OverloadAgg
import Nsl.Proofs.Overload

/-!
# C10 over the full type universe (arrays, structures, optional parameters)

The score `matchSigA` and the index-wise specification `SpecA.viable` / `SpecA.cost` are both
compared with a recursion over the two lists (`compatAllA`, `diffCountA`); this gives the three
facts (`lawsA`) that make the model an instance of the development in `Nsl/Proofs/Overload.lean`.
The primitive model inherits them through the embedding `embedSig` (`laws`).
-/

namespace Nsl.Overload
open Nsl.Types

/-- Recursive form of "at most as many arguments as parameters, every argument convertible to
its parameter, every remaining parameter optional". -/
def compatAllA : List ATy → List (ATy × Bool) → Bool
  | [], ps => ps.all (·.2)
  | a :: as, p :: ps => isCompatibleA a p.1 && compatAllA as ps
  | _ :: _, [] => false

/-- Recursive form of "number of positions that differ" (among the passed arguments). -/
def diffCountA : List ATy → List (ATy × Bool) → Nat
  | a :: as, p :: ps => (if a = p.1 then 0 else 1) + diffCountA as ps
  | _, _ => 0

theorem matchTyA_neg_iff (a p : ATy) : matchTyA a p < 0 ↔ isCompatibleA a p = false := by
  unfold matchTyA
  cases isCompatibleA a p <;> simp <;> split <;> omega

theorem matchTyA_of_compat {a p : ATy} (h : isCompatibleA a p = true) :
    matchTyA a p = ((if a = p then 0 else 1 : Nat) : Int) := by
  simp only [matchTyA, h, Bool.not_true, Bool.false_eq_true, if_false]
  split <;> rfl

theorem compatAllA_length : ∀ {as : List ATy} {ps : List (ATy × Bool)},
    compatAllA as ps = true → as.length ≤ ps.length
  | [], _, _ => by simp
  | _ :: _, [], h => by simp [compatAllA] at h
  | a :: as, p :: ps, h => by
    simp only [compatAllA, Bool.and_eq_true] at h
    have := compatAllA_length h.2
    simp only [List.length_cons]; omega

/-- The score of the passed arguments against the leading parameters (the last part of
`Function.Match`). -/
def scoreA (params : List (ATy × Bool)) (args : List ATy) : Int :=
  let scores := List.zipWith matchTyA args ((params.map (·.1)).take args.length)
  if scores.any (· < 0) then -1 else scores.sum

theorem matchParamsA_eq (params : List (ATy × Bool)) (args : List ATy) :
    matchParamsA params args =
      if args.length < params.length ∧ !((params.drop args.length).all (·.2)) then -1
      else if args.length > params.length then -1
      else scoreA params args := rfl

theorem matchParamsA_nil (ps : List (ATy × Bool)) :
    matchParamsA ps [] = if ps.all (·.2) then 0 else -1 := by
  rw [matchParamsA_eq]
  cases ps with
  | nil => simp [scoreA]
  | cons p ps =>
    by_cases h : (p :: ps).all (·.2) = true
    · rw [if_neg (by simp [h]), if_neg (by simp), if_pos h]; simp [scoreA]
    · rw [if_pos (by simp [h]), if_neg h]

theorem matchParamsA_cons_nil (a : ATy) (as : List ATy) : matchParamsA [] (a :: as) = -1 := by
  rw [matchParamsA_eq]; simp

theorem sum_nonneg_of_not_any_neg : ∀ (l : List Int),
    l.any (fun x => decide (x < 0)) = false → 0 ≤ l.sum
  | [], _ => by simp
  | x :: xs, h => by
    simp only [List.any_cons, Bool.or_eq_false_iff, decide_eq_false_iff_not] at h
    have := sum_nonneg_of_not_any_neg xs h.2
    simp only [List.sum_cons]; omega

theorem scoreA_cons_cons (p : ATy × Bool) (ps : List (ATy × Bool)) (a : ATy) (as : List ATy) :
    scoreA (p :: ps) (a :: as) =
      if matchTyA a p.1 < 0 then -1
      else if scoreA ps as < 0 then -1
      else matchTyA a p.1 + scoreA ps as := by
  simp only [scoreA, List.length_cons, List.map_cons, List.take_succ_cons,
    List.zipWith_cons_cons, List.any_cons, List.sum_cons]
  by_cases h3 : matchTyA a p.1 < 0
  · simp [h3]
  · simp only [h3, decide_false, Bool.false_or, ↓reduceIte]
    by_cases h4 : (List.zipWith matchTyA as (List.take as.length (List.map (·.1) ps))).any
        (fun x => decide (x < 0)) = true
    · simp [h4]
    · have := sum_nonneg_of_not_any_neg _ (Bool.eq_false_iff.mpr h4)
      simp only [h4, Bool.false_eq_true, ↓reduceIte]
      rw [if_neg (by omega)]

/-- One step of `Function.Match`: the two arity tests are the same for `(p :: ps, a :: as)` and
`(ps, as)`. -/
theorem matchParamsA_cons_cons (p : ATy × Bool) (ps : List (ATy × Bool)) (a : ATy)
    (as : List ATy) :
    matchParamsA (p :: ps) (a :: as) =
      if matchTyA a p.1 < 0 then -1
      else if matchParamsA ps as < 0 then -1
      else matchTyA a p.1 + matchParamsA ps as := by
  rw [matchParamsA_eq, matchParamsA_eq, scoreA_cons_cons]
  simp only [List.length_cons, Nat.add_lt_add_iff_right, List.drop_succ_cons, gt_iff_lt]
  by_cases h1 : as.length < ps.length ∧ (!(ps.drop as.length).all (·.2)) = true
  · rw [if_pos h1, if_pos h1]; simp
  · rw [if_neg h1, if_neg h1]
    by_cases h2 : ps.length < as.length
    · rw [if_pos h2, if_pos h2]; simp
    · rw [if_neg h2, if_neg h2]
theorem matchParamsA_eq_diffCount : ∀ (ps : List (ATy × Bool)) (as : List ATy),
    matchParamsA ps as = if compatAllA as ps = true then (diffCountA as ps : Int) else -1
  | ps, [] => by rw [matchParamsA_nil]; rfl
  | [], a :: as => matchParamsA_cons_nil a as
  | p :: ps, a :: as => by
    rw [matchParamsA_cons_cons, matchParamsA_eq_diffCount ps as, compatAllA, diffCountA]
    cases hc : isCompatibleA a p.1
    · rw [if_pos ((matchTyA_neg_iff _ _).mpr hc)]; rfl
    · rw [matchTyA_of_compat hc, Bool.true_and]
      by_cases hr : compatAllA as ps = true
      · rw [if_pos hr, if_pos hr]; omega
      · rw [if_neg hr, if_neg hr]; omega

theorem all_range_succ (f : Nat → Bool) (n : Nat) :
    (List.range (n + 1)).all f = (f 0 && (List.range n).all fun i => f (i + 1)) := by
  rw [List.range_succ_eq_map, List.all_cons, List.all_map]; rfl

theorem length_filter_range_succ (f : Nat → Bool) (n : Nat) :
    ((List.range (n + 1)).filter f).length =
      (if f 0 then 1 else 0) + ((List.range n).filter fun i => f (i + 1)).length := by
  rw [List.range_succ_eq_map, List.filter_cons, List.filter_map]
  split
  · rw [List.length_cons, List.length_map, Nat.add_comm]; rfl
  · rw [List.length_map, Nat.zero_add]; rfl

theorem all_range_optional : ∀ (ps : List (ATy × Bool)),
    ((List.range ps.length).all fun i => SpecA.optionalAt ps i) = ps.all (·.2)
  | [] => rfl
  | p :: ps => by
    rw [List.length_cons, all_range_succ, List.all_cons, ← all_range_optional ps]; rfl

theorem all_range_compatA : ∀ (as : List ATy) (ps : List (ATy × Bool)),
    (decide (as.length ≤ ps.length) &&
      ((List.range ps.length).all fun i => decide (i < as.length) || SpecA.optionalAt ps i) &&
      ((List.range as.length).all fun i => SpecA.convertibleAt as ps i)) = compatAllA as ps
  | [], ps => by
    simp only [compatAllA, ← all_range_optional ps]
    simp
  | a :: as, [] => by simp [compatAllA]
  | a :: as, p :: ps => by
    rw [compatAllA, ← all_range_compatA as ps, List.length_cons, List.length_cons,
      all_range_succ, all_range_succ]
    simp only [SpecA.convertibleAt, SpecA.optionalAt, List.getElem?_cons_zero,
      List.getElem?_cons_succ, Nat.add_le_add_iff_right, Nat.add_lt_add_iff_right,
      Nat.zero_lt_succ, decide_true, Bool.true_or, Bool.true_and]
    ac_rfl

theorem filter_range_diffA : ∀ (as : List ATy) (ps : List (ATy × Bool)),
    as.length ≤ ps.length →
    ((List.range as.length).filter fun i => as[i]? != (ps[i]?).map (·.1)).length =
      diffCountA as ps
  | [], _, _ => rfl
  | _ :: _, [], h => by simp at h
  | a :: as, p :: ps, h => by
    rw [List.length_cons, length_filter_range_succ, diffCountA,
      ← filter_range_diffA as ps (by simpa using h)]
    simp only [List.getElem?_cons_zero, List.getElem?_cons_succ, Option.map_some]
    by_cases hap : a = p.1
    · rw [if_pos hap, if_neg (by simp [hap])]
    · rw [if_neg hap, if_pos (by simp [hap])]

theorem viableA_iff (s : SigA) (name : String) (args : List ATy) :
    SpecA.viable s name args = true ↔ s.name = name ∧ compatAllA args s.params = true := by
  unfold SpecA.viable
  rw [← all_range_compatA]
  simp [Bool.and_assoc]

theorem matchSigA_nonneg_iff_viable (s : SigA) (args : List ATy) :
    0 ≤ matchSigA s args ↔ SpecA.viable s s.name args = true := by
  rw [matchSigA, matchParamsA_eq_diffCount, viableA_iff]
  split <;> simp [*] <;> omega

theorem matchSigA_eq_cost {s : SigA} {args : List ATy} (h : 0 ≤ matchSigA s args) :
    matchSigA s args = (SpecA.cost s args : Int) := by
  rw [matchSigA, matchParamsA_eq_diffCount] at h ⊢
  split at h
  · rename_i hc
    rw [if_pos hc, SpecA.cost, filter_range_diffA _ _ (compatAllA_length hc)]
  · omega

theorem viableA_iff_forall {s : SigA} {name : String} {args : List ATy} :
    SpecA.viable s name args = true ↔
      s.name = name ∧ args.length ≤ s.params.length ∧
        (∀ i < s.params.length, i < args.length ∨ SpecA.optionalAt s.params i = true) ∧
        ∀ i < args.length, SpecA.convertibleAt args s.params i = true := by
  simp [SpecA.viable, and_assoc]

theorem viableA_convertible {s : SigA} {name : String} {args : List ATy}
    (h : SpecA.viable s name args = true) {i : Nat} {a : ATy} {p : ATy × Bool}
    (ha : args[i]? = some a) (hp : s.params[i]? = some p) : isCompatibleA a p.1 = true := by
  have := (viableA_iff_forall.mp h).2.2.2 i (List.getElem?_eq_some_iff.mp ha).1
  rwa [SpecA.convertibleAt, ha, hp] at this

theorem insertByScoreA_eq_rank (x : Int × SigA) : ∀ l, insertByScoreA x l = Rank.insert x l
  | [] => rfl
  | y :: ys => by rw [insertByScoreA, Rank.insert, insertByScoreA_eq_rank x ys]

theorem sortByScoreA_eq_rank : ∀ l, sortByScoreA l = Rank.sort l
  | [] => rfl
  | x :: xs => by rw [sortByScoreA, Rank.sort, sortByScoreA_eq_rank xs, insertByScoreA_eq_rank]

theorem pickRankedA_eq_rank (l : List (Int × SigA)) : pickRankedA l = Rank.pick l := by
  rcases l with _ | ⟨p, _ | ⟨q, l⟩⟩ <;> rfl

theorem findInScopeA_eq_rank (sc : ScopeA) (name : String) (args : List ATy) :
    findInScopeA sc name args = Rank.findInScope SigA.name (matchSigA · args) sc name := by
  simp only [findInScopeA, Rank.findInScope, sortByScoreA_eq_rank, pickRankedA_eq_rank]

theorem findFunctionA_eq_rank (chain : List ScopeA) (name : String) (args : List ATy) :
    findFunctionA chain name args =
      Rank.findFunction SigA.name (matchSigA · args) chain name := by
  induction chain with
  | nil => rfl
  | cons sc rest ih =>
    simp only [findFunctionA, Rank.findFunction, findInScopeA_eq_rank, ih]
    cases Rank.findInScope SigA.name (matchSigA · args) sc name <;> rfl

theorem SpecA.best_eq_rank (sc : ScopeA) (name : String) (args : List ATy) :
    SpecA.best sc name args =
      Rank.best SigA.name (fun n s => SpecA.viable s n args) (SpecA.cost · args) sc name := by
  simp only [SpecA.best, Rank.best, Rank.bestOf]
  -- both sides now take apart the same list, the cheapest viable declarations, with two matchers
  generalize List.filter _ (List.filter _ _) = l
  rcases l with _ | ⟨a, _ | ⟨b, l⟩⟩ <;> rfl

theorem SpecA.resolve_eq_rank (chain : List ScopeA) (name : String) (args : List ATy) :
    SpecA.resolve chain name args =
      Rank.resolve SigA.name (fun n s => SpecA.viable s n args) (SpecA.cost · args)
        chain name := by
  unfold SpecA.resolve Rank.resolve
  cases List.find? _ chain <;> simp only [SpecA.best_eq_rank]

theorem lawsA (args : List ATy) :
    Rank.Laws SigA.name (matchSigA · args) (fun n s => SpecA.viable s n args)
      (SpecA.cost · args) where
  name_eq _ _ h := (viableA_iff_forall.mp h).1
  nonneg_iff s := matchSigA_nonneg_iff_viable s args
  eq_cost _ := matchSigA_eq_cost

theorem isCompatible_symm (a b : Ty) : isCompatible a b = isCompatible b a := by
  unfold isCompatible
  cases reduce1 a <;> cases reduce1 b
  case vec.vec c n c' m => show (n == m) = (m == n); rw [Bool.beq_comm]
  case mat.mat c r k c' r' k' =>
    show (r == r' && k == k') = (r' == r && k' == k)
    rw [Bool.beq_comm (a := r), Bool.beq_comm (a := k)]
  all_goals rfl

theorem isCompatibleA_symm : ∀ (a b : ATy), isCompatibleA a b = isCompatibleA b a
  | .arr e₁ d₁, .arr e₂ d₂ => by
    simp only [isCompatibleA, isCompatibleA_symm e₁ e₂]
    rw [Bool.beq_comm]
  | .prim a, .prim b => by simp only [isCompatibleA]; exact isCompatible_symm a b
  | .struct n₁ f₁, .struct n₂ f₂ => by
    simp only [isCompatibleA]
    by_cases h : ATy.struct n₁ f₁ = ATy.struct n₂ f₂
    · rw [decide_eq_true h, decide_eq_true h.symm]
    · rw [decide_eq_false h, decide_eq_false (fun h' => h h'.symm)]
  | .arr _ _, .prim _ | .arr _ _, .struct _ _ | .prim _, .arr _ _ | .struct _ _, .arr _ _
  | .prim _, .struct _ _ | .struct _ _, .prim _ => by simp [isCompatibleA]

theorem isCompatibleA_refl_struct (n : String) (f : List (String × ATy)) :
    isCompatibleA (.struct n f) (.struct n f) = true := by
  rw [isCompatibleA]; exact decide_eq_true rfl

theorem isCompatibleA_struct_iff (n : String) (f : List (String × ATy)) (b : ATy) :
    isCompatibleA (.struct n f) b = true ↔ b = .struct n f := by
  cases b with
  | prim t => simp [isCompatibleA]
  | arr e d => simp [isCompatibleA]
  | struct n' f' =>
    rw [isCompatibleA, decide_eq_true_iff]
    exact eq_comm

theorem reduce1_vec_ne (c : Comp) (n : Nat) (h : n ≠ 1) : reduce1 (.vec c n) = .vec c n := by
  unfold reduce1
  split
  · rename_i heq; cases heq; exact absurd rfl h
  · rfl

theorem isCompatible_refl : ∀ (t : Ty), isCompatible t t = true
  | .scalar _ => by simp [isCompatible, reduce1]
  | .vec c n => by
    by_cases h1 : n = 1
    · subst h1; simp [isCompatible, reduce1]
    · unfold isCompatible; rw [reduce1_vec_ne c n h1]; simp
  | .mat _ _ _ => by simp [isCompatible, reduce1]

theorem isCompatibleA_refl : ∀ (a : ATy), isCompatibleA a a = true
  | .prim t => by rw [isCompatibleA]; exact isCompatible_refl t
  | .arr e d => by rw [isCompatibleA, isCompatibleA_refl e]; simp
  | .struct n f => isCompatibleA_refl_struct n f

theorem matchTyA_eq_zero_iff_eq (a p : ATy) : matchTyA a p = 0 ↔ a = p := by
  unfold matchTyA
  by_cases hap : a = p
  · subst hap; simp [isCompatibleA_refl]
  · cases isCompatibleA a p <;> simp [hap]

/-- The hypothesis always holds (`isCompatibleA_refl`). -/
theorem matchTyA_self {a : ATy} (h : isCompatibleA a a = true) : matchTyA a a = 0 := by
  simp [matchTyA, h]

theorem matchTyA_refl (a : ATy) : matchTyA a a = 0 := matchTyA_self (isCompatibleA_refl a)

/-- The second conjunct always holds (`isCompatibleA_refl`). -/
theorem matchTyA_eq_zero_iff (a p : ATy) : matchTyA a p = 0 ↔ a = p ∧ isCompatibleA a a = true := by
  rw [matchTyA_eq_zero_iff_eq, isCompatibleA_refl]; simp

theorem costA_eq_zero_iff (s : SigA) (args : List ATy) :
    SpecA.cost s args = 0 ↔ (s.params.map (·.1)).take args.length = args := by
  simp only [SpecA.cost, List.length_eq_zero_iff, List.filter_eq_nil_iff, List.mem_range,
    bne_iff_ne, ne_eq, Decidable.not_not]
  constructor
  · intro h
    apply List.ext_getElem?
    intro i
    rw [List.getElem?_take]
    split
    · rename_i hi; rw [h i hi, List.getElem?_map]
    · rename_i hi; rw [List.getElem?_eq_none (by omega)]
  · intro h i hi
    have := congrArg (·[i]?) h
    simp only [List.getElem?_take, hi, ↓reduceIte, List.getElem?_map] at this
    exact this.symm

theorem compatAllA_map_fst : ∀ ps : List (ATy × Bool), compatAllA (ps.map (·.1)) ps = true
  | [] => rfl
  | p :: ps => by simp [compatAllA, isCompatibleA_refl, compatAllA_map_fst ps]

theorem compatAllA_self : ∀ (as : List ATy), (∀ a ∈ as, isCompatibleA a a = true) →
    compatAllA as (as.map fun a => (a, false)) = true := fun as _ => by
  simpa [Function.comp_def] using compatAllA_map_fst (as.map fun a => (a, false))

theorem matchTyA_prim (a p : Ty) : matchTyA (.prim a) (.prim p) = matchTy a p := by
  unfold matchTyA matchTy
  simp only [isCompatibleA, ATy.prim.injEq]

theorem zipWith_matchTyA_prim : ∀ (as ps : List Ty),
    List.zipWith matchTyA (as.map ATy.prim) (ps.map ATy.prim) = List.zipWith matchTy as ps
  | [], _ => by simp
  | _ :: _, [] => by simp
  | a :: as, p :: ps => by
    simp only [List.map_cons, List.zipWith_cons_cons, matchTyA_prim, zipWith_matchTyA_prim as ps]

theorem all_drop_eq_false {α : Type} {l : List (α × Bool)} (hl : ∀ p ∈ l, p.2 = false) {n : Nat}
    (h : n < l.length) : (l.drop n).all (·.2) = false := by
  cases hd : l.drop n with
  | nil => have := congrArg List.length hd; simp at this; omega
  | cons x xs => simp [hl x (List.mem_of_mem_drop (hd ▸ List.mem_cons_self))]

theorem matchSigA_embed (s : Sig) (args : List Ty) :
    matchSigA (embedSig s) (args.map ATy.prim) = matchSig s args := by
  have hreq : ∀ p ∈ (embedSig s).params, p.2 = false := by simp [embedSig]
  have hty : (embedSig s).params.map (·.1) = s.params.map ATy.prim := by
    simp [embedSig, Function.comp_def]
  have hlen : (embedSig s).params.length = s.params.length := List.length_map _
  rw [matchSigA, matchParamsA_eq, matchSig, List.length_map, hlen]
  rcases Nat.lt_or_ge args.length s.params.length with h | h
  · rw [if_pos ⟨h, by rw [all_drop_eq_false hreq (hlen ▸ h)]; rfl⟩, if_pos (by omega)]
  · rw [if_neg (by omega)]
    by_cases h' : s.params.length < args.length
    · rw [if_pos h', if_pos (by omega)]
    · rw [if_neg h', if_neg (by omega), scoreA, hty,
        List.take_of_length_le (by simp; omega), zipWith_matchTyA_prim]

theorem viableA_embed (s : Sig) (name : String) (args : List Ty) :
    SpecA.viable (embedSig s) name (args.map ATy.prim) = Spec.viable s name args := by
  have ho : ∀ i, SpecA.optionalAt (embedSig s).params i = false := fun i => by
    simp only [SpecA.optionalAt, embedSig, List.getElem?_map]
    cases s.params[i]? <;> rfl
  have hc : ∀ i, SpecA.convertibleAt (args.map ATy.prim) (embedSig s).params i =
      Spec.convertibleAt args s.params i := fun i => by
    simp only [SpecA.convertibleAt, Spec.convertibleAt, embedSig, List.getElem?_map]
    cases args[i]? <;> cases s.params[i]? <;> rfl
  have hl : (decide (args.length ≤ s.params.length) &&
      (List.range s.params.length).all fun i => decide (i < args.length)) =
        (s.params.length == args.length) := by
    rw [Bool.eq_iff_iff]
    simp only [Bool.and_eq_true, decide_eq_true_eq, List.all_eq_true, List.mem_range, beq_iff_eq]
    constructor
    · rintro ⟨h1, h2⟩
      rcases Nat.lt_or_ge args.length s.params.length with h | h
      · exact absurd (h2 _ h) (Nat.lt_irrefl _)
      · omega
    · intro h; exact ⟨by omega, fun i hi => by omega⟩
  have hlen : (embedSig s).params.length = s.params.length := List.length_map _
  simp only [SpecA.viable, Spec.viable, ho, hc, hlen, Bool.or_false, List.length_map, ← hl,
    Bool.and_assoc]
  rfl

theorem costA_embed (s : Sig) (args : List Ty) :
    SpecA.cost (embedSig s) (args.map ATy.prim) = Spec.cost s args := by
  have hp : ∀ i : Nat, ((args.map ATy.prim)[i]? !=
      ((embedSig s).params[i]?).map fun p : ATy × Bool => p.1) = (args[i]? != s.params[i]?) :=
      fun i => by
    rw [Bool.eq_iff_iff]
    simp [embedSig, Function.comp_def, Option.map_inj_right]
  simp only [SpecA.cost, Spec.cost, hp, List.length_map]

theorem laws (args : List Ty) :
    Rank.Laws Sig.name (matchSig · args) (fun n s => Spec.viable s n args)
      (Spec.cost · args) where
  name_eq _ _ h := (viable_iff_forall.mp h).1
  nonneg_iff s := by
    rw [← matchSigA_embed, ← viableA_embed]; exact (lawsA _).nonneg_iff (embedSig s)
  eq_cost s := by
    rw [← matchSigA_embed, ← costA_embed]; exact (lawsA _).eq_cost (embedSig s)

end Nsl.Overload
