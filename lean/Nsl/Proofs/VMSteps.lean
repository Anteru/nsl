import Nsl.Model.VM
/-!
# `stepI` and `run`: equations, fuel, and a fuel-free view of executions

One equation of `stepI` per instruction, so that proofs about one instruction rewrite instead of unfolding.
`run` threads one fuel counter through instructions and nested calls; more fuel changes no outcome but `timeout`
(`run_mono_ne`), and `Steps` lets every step use a call budget of its own.
-/
namespace Nsl
namespace VM

/-- Meaning of a call with budget `D` (what `run` passes to `stepI`). -/
def callD (P : Program) (D : Nat) : String → List Val → Globals → Res := fun name args g' =>
  match P.find name with
  | some callee => run P D callee 0 { args := args } g'
  | none => .fail (.internal "KeyError-function")

theorem callD_some {P : Program} {name : String} {callee : Func} (hf : P.find name = some callee) (D : Nat)
    (args : List Val) (g : Globals) : callD P D name args g = run P D callee 0 { args := args } g := by
  simp only [callD, hf]

theorem callD_none {P : Program} {name : String} (hf : P.find name = none) (D : Nat) (args : List Val)
    (g : Globals) : callD P D name args g = .fail (.internal "KeyError-function") := by
  simp only [callD, hf]

theorem invoke_eq_callD (P : Program) (fuel : Nat) : invoke P fuel = callD P fuel := rfl

theorem run_zero (P : Program) (fn : Func) (pc : Nat) (fr : Frame) (g : Globals) :
    run P 0 fn pc fr g = .fail .timeout := by
  rw [run]

theorem run_succ (P : Program) (fuel : Nat) (fn : Func) (pc : Nat) (fr : Frame) (g : Globals) :
    run P (fuel + 1) fn pc fr g =
      match stepI (callD P fuel) fn.code pc fr g with
      | .next pc' fr' g' => run P fuel fn pc' fr' g'
      | .ret v g' as => .done v g' as
      | .fail e => .fail e := by
  rw [run]; rfl

theorem liftE_ok {α} {x : Except Err α} {k : α → StepOut} {a : α} (h : x = .ok a) :
    liftE x k = k a := by
  subst h; rfl

/-! Where the arm of `stepI` contains a `match`, the statement gets a matcher of its own; the two agree by `rfl`
only, which `simp only` does not try: hence `unfold stepI; rw [hc]; rfl` in those cases. -/

section
variable {cf : String → List Val → Globals → Res} {code : List Instr} {pc : Nat} {fr : Frame} {g : Globals}

theorem stepI_none (hc : code[pc]? = none) : stepI cf code pc fr g = .ret .none g fr.args := by
  simp only [stepI, hc]

theorem stepI_label {l : Nat} (hc : code[pc]? = some (.label l)) :
    stepI cf code pc fr g = .next (pc + 1) fr g := by
  simp only [stepI, hc]

theorem stepI_load {dst : Nat} {ty : ITy} {sc : Scope} {var : VarKey}
    (hc : code[pc]? = some (.load dst ty sc var)) :
    stepI cf code pc fr g =
      liftE (rootOf sc var) fun root =>
      liftE (readRoot fr g root) fun v =>
      if ty.isAggregate && isAggVal v then .next (pc + 1) (setReg fr dst (.ptr root [])) g
      else .next (pc + 1) (setReg fr dst v) g := by
  simp only [stepI, hc]

theorem stepI_store {sc : Scope} {var : VarKey} {src : Opd} (hc : code[pc]? = some (.store sc var src)) :
    stepI cf code pc fr g =
      liftE (rootOf sc var) fun root =>
      liftE (evalOpd fr src) fun v =>
      match v with
      | .ptr _ _ => .fail (.unsupported "whole-aggregate-assignment")
      | v => liftE (writeRoot fr g root v) fun (fr', g') => .next (pc + 1) fr' g' := by
  unfold stepI; rw [hc]; rfl

theorem stepI_newVar {dst : Nat} {ty : ITy} {name : String} (hc : code[pc]? = some (.newVar dst ty name)) :
    stepI cf code pc fr g =
      if ty.isAggregate then
        .next (pc + 1) (setReg { fr with locals := Map.set fr.locals name (createInstance ty) } dst
          (.ptr (.loc name) [])) g
      else
        .next (pc + 1) (setReg { fr with locals := Map.set fr.locals name (createInstance ty) } dst
          (createInstance ty)) g := by
  simp only [stepI, hc]

theorem stepI_bin {dst : Nat} {op : BinOp} {ty : ITy} {a b : Opd} (hc : code[pc]? = some (.bin dst op ty a b)) :
    stepI cf code pc fr g =
      liftE (evalVal fr g a) fun x =>
      liftE (evalVal fr g b) fun y =>
      liftE (binExec op ty x y) fun z => .next (pc + 1) (setReg fr dst z) g := by
  simp only [stepI, hc]

theorem stepI_cast {dst : Nat} {ty : ITy} {a : Opd} (hc : code[pc]? = some (.cast dst ty a)) :
    stepI cf code pc fr g =
      liftE (evalVal fr g a) fun x =>
      liftE (castExec ty x) fun z => .next (pc + 1) (setReg fr dst z) g := by
  simp only [stepI, hc]

theorem stepI_br {l : Nat} (hc : code[pc]? = some (.br l)) : stepI cf code pc fr g = jump code l fr g := by
  simp only [stepI, hc]

theorem stepI_brc {p : Opd} {t f : Nat} (hc : code[pc]? = some (.brc p t f)) :
    stepI cf code pc fr g =
      liftE (evalVal fr g p) fun v => if v.truthy then jump code t fr g else jump code f fr g := by
  simp only [stepI, hc]

theorem stepI_ret_none (hc : code[pc]? = some (.ret none)) : stepI cf code pc fr g = .ret .none g fr.args := by
  simp only [stepI, hc]

theorem stepI_ret_some {o : Opd} (hc : code[pc]? = some (.ret (some o))) :
    stepI cf code pc fr g = liftE (evalVal fr g o) fun v => .ret v g fr.args := by
  simp only [stepI, hc]

theorem stepI_call {dst : Nat} {ty : ITy} {fn : String} {args : List Opd}
    (hc : code[pc]? = some (.call dst ty fn args)) :
    stepI cf code pc fr g =
      liftE (evalVals fr g args) fun vs =>
      match cf fn vs g with
      | .done v g' _ => .next (pc + 1) (setReg fr dst v) g'
      | .fail e => .fail e := by
  unfold stepI; rw [hc]; rfl

theorem stepI_loadArr {dst : Nat} {ty : ITy} {arr idx : Opd} (hc : code[pc]? = some (.loadArr dst ty arr idx)) :
    stepI cf code pc fr g =
      liftE (evalOpd fr arr) fun a =>
      liftE (evalVal fr g idx) fun i =>
      match a with
      | .ptr r p =>
        liftE (do let root ← readRoot fr g r; getPath root p) fun container =>
        liftE (indexOf container i) fun k =>
        liftE (getKey container (.idx k)) fun x =>
        if ty.isAggregate && isAggVal x then .next (pc + 1) (setReg fr dst (.ptr r (p ++ [.idx k]))) g
        else .next (pc + 1) (setReg fr dst x) g
      | container =>
        liftE (indexOf container i) fun k =>
        liftE (getKey container (.idx k)) fun x => .next (pc + 1) (setReg fr dst x) g := by
  unfold stepI; rw [hc]; rfl

theorem stepI_storeArr {arr idx src : Opd} (hc : code[pc]? = some (.storeArr arr idx src)) :
    stepI cf code pc fr g =
      liftE (evalOpd fr arr) fun a =>
      liftE (evalVal fr g idx) fun i =>
      liftE (evalOpd fr src) fun v =>
      match v with
      | .ptr _ _ => .fail (.unsupported "whole-aggregate-assignment")
      | v =>
        match a with
        | .ptr r p =>
          liftE (readRoot fr g r) fun root =>
          liftE (getPath root p) fun container =>
          liftE (indexOf container i) fun k =>
          liftE (setPath root (p ++ [.idx k]) v) fun root' =>
          liftE (writeRoot fr g r root') fun (fr', g') => .next (pc + 1) fr' g'
        | container =>
          liftE (indexOf container i) fun _ => .next (pc + 1) fr g := by
  unfold stepI; rw [hc]; rfl

theorem stepI_loadMem {dst : Nat} {ty : ITy} {obj : Opd} {field : String}
    (hc : code[pc]? = some (.loadMem dst ty obj field)) :
    stepI cf code pc fr g =
      liftE (evalOpd fr obj) fun a =>
      match a with
      | .ptr r p =>
        liftE (do let root ← readRoot fr g r; getPath root p) fun container =>
        liftE (getKey container (.fld field)) fun x =>
        if ty.isAggregate && isAggVal x then .next (pc + 1) (setReg fr dst (.ptr r (p ++ [.fld field]))) g
        else .next (pc + 1) (setReg fr dst x) g
      | container =>
        liftE (getKey container (.fld field)) fun x => .next (pc + 1) (setReg fr dst x) g := by
  unfold stepI; rw [hc]; rfl

theorem stepI_storeMem {obj : Opd} {field : String} {src : Opd} (hc : code[pc]? = some (.storeMem obj field src)) :
    stepI cf code pc fr g =
      liftE (evalOpd fr obj) fun a =>
      liftE (evalOpd fr src) fun v =>
      match v with
      | .ptr _ _ => .fail (.unsupported "whole-aggregate-assignment")
      | v =>
        match a with
        | .ptr r p =>
          liftE (readRoot fr g r) fun root =>
          liftE (setPath root (p ++ [.fld field]) v) fun root' =>
          liftE (writeRoot fr g r root') fun (fr', g') => .next (pc + 1) fr' g'
        | .struct _ => .next (pc + 1) fr g
        | _ => .fail (.internal "subscript-on-wrong-kind") := by
  unfold stepI; rw [hc]; rfl

theorem stepI_vecGet {dst : Nat} {ty : ITy} {v idx : Opd} (hc : code[pc]? = some (.vecGet dst ty v idx)) :
    stepI cf code pc fr g =
      liftE (evalVal fr g v) fun a =>
      liftE (evalVal fr g idx) fun i =>
      liftE (indexOf a i) fun k =>
      liftE (getKey a (.idx k)) fun x => .next (pc + 1) (setReg fr dst x) g := by
  simp only [stepI, hc]

theorem stepI_matGet {dst : Nat} {ty : ITy} {m idx : Opd} (hc : code[pc]? = some (.matGet dst ty m idx)) :
    stepI cf code pc fr g =
      liftE (evalVal fr g m) fun a =>
      liftE (evalVal fr g idx) fun i =>
      liftE (indexOf a i) fun k =>
      liftE (getKey a (.idx k)) fun x => .next (pc + 1) (setReg fr dst x) g := by
  simp only [stepI, hc]

theorem stepI_vecSet {dst : Nat} {ty : ITy} {v idx src : Opd} (hc : code[pc]? = some (.vecSet dst ty v idx src)) :
    stepI cf code pc fr g =
      liftE (evalVal fr g v) fun a =>
      liftE (evalVal fr g idx) fun i =>
      liftE (evalVal fr g src) fun x =>
      liftE (indexOf a i) fun k =>
      liftE (setKey a (.idx k) x) fun a' => .next (pc + 1) (setReg fr dst a') g := by
  simp only [stepI, hc]

theorem stepI_matSet {dst : Nat} {ty : ITy} {m idx src : Opd} (hc : code[pc]? = some (.matSet dst ty m idx src)) :
    stepI cf code pc fr g =
      liftE (evalVal fr g m) fun a =>
      liftE (evalVal fr g idx) fun i =>
      liftE (evalVal fr g src) fun x =>
      liftE (indexOf a i) fun k =>
      liftE (setKey a (.idx k) x) fun a' => .next (pc + 1) (setReg fr dst a') g := by
  simp only [stepI, hc]

theorem stepI_shuffle {dst : Nat} {ty : ITy} {a b : Opd} {idx : List Nat}
    (hc : code[pc]? = some (.shuffle dst ty a b idx)) :
    stepI cf code pc fr g =
      liftE (evalVal fr g a) fun x =>
      liftE (evalVal fr g b) fun y =>
      liftE (shuffleExec ty x y idx) fun z => .next (pc + 1) (setReg fr dst z) g := by
  simp only [stepI, hc]

theorem stepI_construct {dst : Nat} {ty : ITy} {vals : List Opd} (hc : code[pc]? = some (.construct dst ty vals)) :
    stepI cf code pc fr g =
      liftE (evalVals fr g vals) fun vs =>
      liftE (constructExec ty vs) fun z => .next (pc + 1) (setReg fr dst z) g := by
  simp only [stepI, hc]

/-- `stepI` depends on the meaning of calls only through the one call it makes. -/
theorem stepI_congr_call {cf' : String → List Val → Globals → Res}
    (h : ∀ dst ty fn args vs, code[pc]? = some (.call dst ty fn args) → evalVals fr g args = .ok vs →
      cf' fn vs g = cf fn vs g) :
    stepI cf' code pc fr g = stepI cf code pc fr g := by
  unfold stepI
  cases hc : code[pc]? with
  | none => rfl
  | some ins =>
    cases ins with
    | call dst ty fn args =>
      cases hv : evalVals fr g args with
      | error e => simp only [hv, liftE]
      | ok vs => simp only [hv, liftE, h _ _ _ _ _ hc hv]
    | ret o => cases o <;> rfl
    | _ => rfl

end

/-- `cf'` agrees with `cf` wherever `cf` does not run out of budget. -/
def CallRel (cf cf' : String → List Val → Globals → Res) : Prop :=
  ∀ name args g, cf name args g ≠ .fail .timeout → cf' name args g = cf name args g

theorem stepI_callRel {cf cf' : String → List Val → Globals → Res} (hx : CallRel cf cf')
    {code : List Instr} {pc : Nat} {fr : Frame} {g : Globals}
    (h : stepI cf code pc fr g ≠ .fail .timeout) : stepI cf' code pc fr g = stepI cf code pc fr g := by
  refine stepI_congr_call fun dst ty fn args vs hc hv => hx fn vs g fun hr => h ?_
  rw [stepI_call hc, liftE_ok hv, hr]

theorem callD_callRel_of (P : Program) (D D' : Nat)
    (ih : ∀ (fn : Func) (pc : Nat) (fr : Frame) (g : Globals), run P D fn pc fr g ≠ .fail .timeout →
      run P D' fn pc fr g = run P D fn pc fr g) : CallRel (callD P D) (callD P D') := by
  intro name args g hc
  cases hf : P.find name with
  | none => rw [callD_none hf, callD_none hf]
  | some callee =>
    rw [callD_some hf] at hc ⊢
    rw [callD_some hf]
    exact ih _ _ _ _ hc

theorem run_mono_ne (P : Program) : ∀ (f : Nat) (fn : Func) (pc : Nat) (fr : Frame) (g : Globals),
    run P f fn pc fr g ≠ .fail .timeout → ∀ f', f ≤ f' → run P f' fn pc fr g = run P f fn pc fr g := by
  intro f
  induction f with
  | zero => intro fn pc fr g h; rw [run_zero] at h; exact absurd rfl h
  | succ f ih =>
    intro fn pc fr g h f' hle
    obtain ⟨f'', rfl⟩ : ∃ f'', f' = f'' + 1 := ⟨f' - 1, by omega⟩
    have hle' : f ≤ f'' := by omega
    rw [run_succ] at h ⊢
    rw [run_succ]
    have hext : CallRel (callD P f) (callD P f'') :=
      callD_callRel_of P f f'' (fun fn pc fr g hne => ih fn pc fr g hne f'' hle')
    have hstep : stepI (callD P f) fn.code pc fr g ≠ .fail .timeout := by
      intro hs; rw [hs] at h; exact h rfl
    rw [stepI_callRel hext hstep]
    cases hs : stepI (callD P f) fn.code pc fr g with
    | fail e => rfl
    | next pc1 fr1 g1 =>
      simp only [hs] at h ⊢
      exact ih _ _ _ _ h f'' hle'
    | ret v1 g1 as1 => rfl

theorem callD_callRel (P : Program) {D D' : Nat} (h : D ≤ D') : CallRel (callD P D) (callD P D') :=
  callD_callRel_of P D D' (fun fn pc fr g hne => run_mono_ne P D fn pc fr g hne D' h)

theorem invoke_mono_ne (Q : Program) (name : String) (args : List Val) (g : Globals) (a b : Nat) (hab : a ≤ b)
    (h : invoke Q a name args g ≠ .fail .timeout) : invoke Q b name args g = invoke Q a name args g := by
  rw [invoke_eq_callD] at h ⊢
  rw [invoke_eq_callD]
  exact callD_callRel Q hab name args g h

theorem run_mono (P : Program) : ∀ (f : Nat) (fn : Func) (pc : Nat) (fr : Frame) (g : Globals)
    (v : Val) (g' : Globals) (as : List Val),
    run P f fn pc fr g = .done v g' as → ∀ f', f ≤ f' → run P f' fn pc fr g = .done v g' as :=
  fun f fn pc fr g v g' as h f' hle => by
    rw [run_mono_ne P f fn pc fr g (by rw [h]; nofun) f' hle, h]

abbrev Cfg := Nat × Frame × Globals

/-- Multi-step execution inside one function; every step may use its own call budget. -/
inductive Steps (P : Program) (code : List Instr) : Cfg → Cfg → Prop
  | refl (c : Cfg) : Steps P code c c
  | step (D : Nat) {pc : Nat} {fr : Frame} {g : Globals} {pc' : Nat} {fr' : Frame} {g' : Globals}
      {c'' : Cfg} :
      stepI (callD P D) code pc fr g = .next pc' fr' g' → Steps P code (pc', fr', g') c'' →
      Steps P code (pc, fr, g) c''

theorem Steps.trans {P : Program} {code : List Instr} {a b c : Cfg}
    (h1 : Steps P code a b) (h2 : Steps P code b c) : Steps P code a c := by
  induction h1 with
  | refl _ => exact h2
  | step D hs _ ih => exact .step D hs (ih h2)

theorem Steps.one {P : Program} {code : List Instr} (D : Nat) {pc : Nat} {fr : Frame} {g : Globals}
    {pc' : Nat} {fr' : Frame} {g' : Globals}
    (h : stepI (callD P D) code pc fr g = .next pc' fr' g') :
    Steps P code (pc, fr, g) (pc', fr', g') :=
  .step D h (.refl _)

def Returns (P : Program) (code : List Instr) (c : Cfg) (v : Val) (G : Globals) (A : List Val) : Prop :=
  ∃ pc fr g D, Steps P code c (pc, fr, g) ∧ stepI (callD P D) code pc fr g = .ret v G A

theorem run_of_steps {P : Program} {fn : Func} {c c' : Cfg} (hs : Steps P fn.code c c')
    {f : Nat} {v : Val} {G : Globals} {A : List Val}
    (hr : run P f fn c'.1 c'.2.1 c'.2.2 = .done v G A) :
    ∃ f', run P f' fn c.1 c.2.1 c.2.2 = .done v G A := by
  induction hs with
  | refl _ => exact ⟨f, hr⟩
  | @step D pc fr g pc' fr' g' c'' hstep _ ih =>
    obtain ⟨f1, h1⟩ := ih hr
    refine ⟨max D f1 + 1, ?_⟩
    rw [run_succ, stepI_callRel (callD_callRel P (Nat.le_max_left D f1)) (by rw [hstep]; nofun), hstep]
    exact run_mono P _ _ _ _ _ _ _ _ h1 _ (Nat.le_max_right D f1)

theorem run_of_returns {P : Program} {fn : Func} {c : Cfg} {v : Val} {G : Globals} {A : List Val}
    (h : Returns P fn.code c v G A) : ∃ f, run P f fn c.1 c.2.1 c.2.2 = .done v G A := by
  obtain ⟨pc, fr, g, D, hs, hret⟩ := h
  have : run P (D + 1) fn pc fr g = .done v G A := by
    rw [run_succ]; simp only [hret]
  exact run_of_steps hs (f := D + 1) this

theorem Returns.of_steps {P : Program} {code : List Instr} {c c' : Cfg} {v : Val} {G : Globals}
    {A : List Val} (hs : Steps P code c c') (h : Returns P code c' v G A) : Returns P code c v G A := by
  obtain ⟨pc, fr, g, D, hs', hret⟩ := h
  exact ⟨pc, fr, g, D, hs.trans hs', hret⟩

end VM
end Nsl
