import Nsl.Proofs.VecEval
import Nsl.Proofs.VecStore
/-!
# Vector core: the induction on the fuel of the reference run (`Sim.sim_main` at `mdisc M`), and decidable checks
for the host hypotheses
-/
namespace Nsl
namespace Vec
open Core VM CoreSem Lower Sim

def AllV (M : Core.Module) (n : Nat) : Prop := ESimV M n ∧ ASimV M n ∧ StSimV M n

theorem sim_allV (M : Core.Module) (hM : VectorCore M) :
    ∀ n, AllV M n ∧ (∀ f : FnDef, SSim M (disc M f.params (declShapes f.body) (shape f.ret)) n) ∧ CSim (mdisc M) n := by
  refine sim_main (mdisc M) hM (AllV M) ⟨?_, ?_, ?_⟩ (fun _ f h => ESimV.toW h.1 _ _ _) ?_
  · intro code ps Γ e fr g v fr' g' h; rw [evalE_zero] at h; cases h
  · intro code ps Γ as fr g vs fr' g' h; rw [evalArgs_zero] at h; cases h
  · intro code ps Γ lhs w fr g u fr' g' h; rw [storeTo_zero] at h; cases h
  · intro n ih hC
    obtain ⟨ihE, ihA, ihSt⟩ := ih n (Nat.le_refl n)
    exact ⟨esim_succV M n ihE ihA ihSt hC, asim_succV M n ihE ihA, stsim_succV M n ihE ihSt⟩

theorem invoke_correct {M : Core.Module} (hM : VectorCore M) {fuel : Nat} {name : String} {args : List Val}
    {g : Globals} {v : Val} {g' : Globals} {as : List Val}
    (href : CoreSem.invoke M fuel name args g = .done v g' as)
    (hargs : ∀ f, findFn M name = some f → ArgsFit f.params args) (hg : GlobalsFit M.globals g) :
    (∃ d, VM.invoke (lowerModule M) d name args g = .done v g' as) ∧
      (∀ f, findFn M name = some f → fits (shape f.ret) v = true) ∧ GlobalsFit M.globals g' := by
  obtain ⟨d, hd, hv, hg'⟩ := (sim_allV M hM fuel).2.2 href hargs hg
  exact ⟨⟨d, by rw [invoke_eq_callD]; exact hd⟩, hv, hg'⟩

def argsFitB : List (String × ITy) → List Val → Bool
  | p :: ps, a :: as => fits (shape p.2) a && argsFitB ps as
  | _, _ => true

theorem argsFit_of_check : ∀ (ps : List (String × ITy)) (args : List Val), argsFitB ps args = true → ArgsFit ps args
  | [], _, _ => by intro i p a hp; simp at hp
  | _ :: _, [], _ => by intro i p a _ ha; simp at ha
  | p :: ps, a :: as, h => by
    simp only [argsFitB, Bool.and_eq_true] at h
    intro i p' a' hp ha
    cases i with
    | zero =>
      simp only [List.getElem?_cons_zero, Option.some.injEq] at hp ha
      subst hp; subst ha; exact h.1
    | succ j =>
      simp only [List.getElem?_cons_succ] at hp ha
      exact argsFit_of_check ps as h.2 j p' a' hp ha

def globalsFitB (gs : List (String × ITy)) (g : Globals) : Bool :=
  g.all fun p => match Map.get gs p.1 with
    | some t => fits (shape t) p.2
    | none => true

theorem globalsFit_of_check (gs : List (String × ITy)) (g : Globals) (h : globalsFitB gs g = true) :
    GlobalsFit gs g := by
  intro n t v ht hv
  have := List.all_eq_true.1 h (n, v) (Map.mem_of_get hv)
  simpa [ht] using this

end Vec
end Nsl
