import Nsl.Proofs.CoreSemEq
import Nsl.Proofs.ScalarOps
import Nsl.Proofs.LowerShape
/-!
# Basic facts for the simulation proof: related frames, placed fragments, the no-pointer invariant, function lookup
-/
namespace Nsl
namespace Sim
open Core VM CoreSem Lower

/-- The VM frame that corresponds to the source-level frame `fr`: same locals and arguments, registers `ρ`. -/
def vf (ρ : Map Nat Val) (fr : Frame) : Frame := { regs := ρ, locals := fr.locals, args := fr.args }

@[simp] theorem vf_locals (ρ : Map Nat Val) (fr : Frame) : (vf ρ fr).locals = fr.locals := rfl
@[simp] theorem vf_args (ρ : Map Nat Val) (fr : Frame) : (vf ρ fr).args = fr.args := rfl
@[simp] theorem vf_regs (ρ : Map Nat Val) (fr : Frame) : (vf ρ fr).regs = ρ := rfl

theorem setReg_vf (ρ : Map Nat Val) (fr : Frame) (d : Nat) (v : Val) :
    setReg (vf ρ fr) d v = vf (Map.set ρ d v) fr := rfl

theorem vf_vf (ρ ρ' : Map Nat Val) (fr : Frame) : vf ρ' (vf ρ fr) = vf ρ' fr := rfl

theorem readRoot_vf (ρ : Map Nat Val) (fr : Frame) (g : Globals) (r : Root) :
    readRoot (vf ρ fr) g r = readRoot fr g r := by
  cases r <;> rfl

theorem writeRoot_vf {ρ : Map Nat Val} {fr : Frame} {g : Globals} {r : Root} {v : Val} {fr1 : Frame}
    {g1 : Globals} (h : writeRoot fr g r v = .ok (fr1, g1)) :
    writeRoot (vf ρ fr) g r v = .ok (vf ρ fr1, g1) := by
  cases r with
  | loc n =>
    simp only [writeRoot, Except.ok.injEq, Prod.mk.injEq] at h ⊢
    obtain ⟨rfl, rfl⟩ := h
    exact ⟨rfl, rfl⟩
  | arg i =>
    simp only [writeRoot] at h ⊢
    by_cases hi : i < fr.args.length
    · rw [if_pos hi] at h
      simp only [Except.ok.injEq, Prod.mk.injEq] at h
      obtain ⟨rfl, rfl⟩ := h
      simp [vf, hi]
    · rw [if_neg hi] at h; cases h
  | glob n =>
    simp only [writeRoot, Except.ok.injEq, Prod.mk.injEq] at h ⊢
    obtain ⟨rfl, rfl⟩ := h
    exact ⟨rfl, rfl⟩

/-- What a declaration leaves in its register (the instance, or an alias of the new local) does not matter. -/
theorem step_newVar_any {cf : String → List Val → Globals → Res} {code : List Instr} {pc : Nat} {fr : Frame}
    {g : Globals} {dst : Nat} {ty : ITy} {name : String} (hc : code[pc]? = some (.newVar dst ty name)) :
    ∃ w, stepI cf code pc fr g =
      .next (pc + 1) (setReg { fr with locals := Map.set fr.locals name (createInstance ty) } dst w) g := by
  cases ha : ty.isAggregate
  · exact ⟨createInstance ty, by simp [stepI, hc, ha]⟩
  · exact ⟨.ptr (.loc name) [], by simp [stepI, hc, ha]⟩

theorem evalOpd_vf_ref (ρ : Map Nat Val) (fr : Frame) (n : Nat) (v : Val) (h : Map.get ρ n = some v) :
    evalOpd (vf ρ fr) (.ref n) = .ok v := by
  simp [evalOpd, h]

theorem evalOpd_vf_set (ρ : Map Nat Val) (fr : Frame) (d : Nat) (v : Val) :
    evalOpd (vf (Map.set ρ d v) fr) (.ref d) = .ok v :=
  evalOpd_vf_ref _ _ _ _ (Map.get_set_eq ..)

/-- The value of an operand only depends on the registers below the bound of the operand. -/
theorem evalOpd_frame {ρ ρ' : Map Nat Val} {fr fr' : Frame} {o : Opd} {v : Val} {k : Nat}
    (h : evalOpd (vf ρ fr) o = .ok v) (hb : OpdBelow o k)
    (hfr : ∀ r, r < k → Map.get ρ' r = Map.get ρ r) : evalOpd (vf ρ' fr') o = .ok v := by
  cases o with
  | ref n =>
    simp only [OpdBelow] at hb
    simp only [evalOpd, vf_regs] at h ⊢
    rw [hfr n hb]; exact h
  | cInt i => simpa [evalOpd] using h
  | cFlt f => simpa [evalOpd] using h

/-! ## Placed fragments with their end position

`Seg code q frag e`: `frag` sits at `q` and ends at `e`.  Taking a fragment apart from the left (`right`, `tail`)
keeps `e`, so the end position of a statement is carried along to its last instruction instead of being recomputed
from the lengths of the pieces. -/

def Seg (code : List Instr) (q : Nat) (frag : List Instr) (e : Nat) : Prop := At code q frag ∧ q + frag.length = e

theorem Seg.of_at {code : List Instr} {q : Nat} {frag : List Instr} (h : At code q frag) :
    Seg code q frag (q + frag.length) := ⟨h, rfl⟩

theorem Seg.left {code : List Instr} {q e : Nat} {a b : List Instr} (h : Seg code q (a ++ b) e) : At code q a :=
  h.1.left

theorem Seg.init {code : List Instr} {q e : Nat} {a b : List Instr} (h : Seg code q (a ++ b) e) :
    Seg code q a (q + a.length) :=
  .of_at h.left

theorem Seg.right {code : List Instr} {q e : Nat} {a b : List Instr} (h : Seg code q (a ++ b) e) :
    Seg code (q + a.length) b e :=
  ⟨h.1.right, by rw [← h.2, List.length_append, Nat.add_assoc]⟩

theorem Seg.head {code : List Instr} {q e : Nat} {x : Instr} {rest : List Instr} (h : Seg code q (x :: rest) e) :
    code[q]? = some x := h.1.head

theorem Seg.tail {code : List Instr} {q e : Nat} {x : Instr} {rest : List Instr} (h : Seg code q (x :: rest) e) :
    Seg code (q + 1) rest e :=
  ⟨h.1.tail, by rw [← h.2, List.length_cons, Nat.add_assoc, Nat.add_comm 1]⟩

theorem Seg.end_nil {code : List Instr} {q e : Nat} (h : Seg code q [] e) : e = q := h.2.symm

theorem Seg.end_one {code : List Instr} {q e : Nat} {x : Instr} (h : Seg code q [x] e) : e = q + 1 := h.2.symm

def MapOK {κ : Type} [DecidableEq κ] (m : Map κ Val) : Prop :=
  ∀ k v, Map.get m k = some v → Val.isPtr v = false

def ListOK (l : List Val) : Prop := ∀ v ∈ l, Val.isPtr v = false

def FrOK (fr : Frame) : Prop := MapOK fr.locals ∧ ListOK fr.args

theorem MapOK.set {κ : Type} [DecidableEq κ] {m : Map κ Val} (h : MapOK m) (k : κ) {v : Val}
    (hv : Val.isPtr v = false) : MapOK (Map.set m k v) := by
  intro k' v' hg
  by_cases hk : k = k'
  · subst hk
    rw [Map.get_set_eq] at hg
    cases hg; exact hv
  · rw [Map.get_set_ne _ _ _ _ hk] at hg
    exact h k' v' hg

theorem ListOK.set {l : List Val} (h : ListOK l) (i : Nat) {v : Val} (hv : Val.isPtr v = false) :
    ListOK (l.set i v) := by
  intro x hx
  rcases List.mem_or_eq_of_mem_set hx with hx | rfl
  · exact h x hx
  · exact hv

theorem readRoot_noPtr {fr : Frame} {g : Globals} {r : Root} {v : Val} (hf : FrOK fr) (hg : MapOK g)
    (h : readRoot fr g r = .ok v) : Val.isPtr v = false := by
  cases r with
  | loc n =>
    simp only [readRoot] at h
    cases hm : Map.get fr.locals n with
    | none => simp [hm] at h
    | some x => simp only [hm, Except.ok.injEq] at h; subst h; exact hf.1 n x hm
  | arg i =>
    simp only [readRoot] at h
    cases hm : fr.args[i]? with
    | none => simp [hm] at h
    | some x => simp only [hm, Except.ok.injEq] at h; subst h; exact hf.2 x (List.mem_of_getElem? hm)
  | glob n =>
    simp only [readRoot] at h
    cases hm : Map.get g n with
    | none => simp [hm] at h
    | some x => simp only [hm, Except.ok.injEq] at h; subst h; exact hg n x hm

theorem isNum_noPtr {v : Val} (h : v.isNum = true) : Val.isPtr v = false := by
  cases v with
  | ptr r p => cases h
  | _ => rfl

theorem scalarBin_noPtr {o : SOp} {it : Bool} {a b z : Val} (h : scalarBin o it a b = .ok z) :
    Val.isPtr z = false :=
  isNum_noPtr (scalarBin_ok_num h)

theorem castScalar_noPtr {s : Sc} {a z : Val} (h : castScalar s a = .ok z) : Val.isPtr z = false :=
  isNum_noPtr (castScalar_ok_num h)

theorem keyOK_rootOf {sc : Scope} {key : VarKey} (h : keyOK sc key = true) : ∃ r, rootOf sc key = .ok r := by
  cases sc <;> cases key <;> simp [keyOK] at h <;> exact ⟨_, rfl⟩

theorem find_lowerModule (M : Core.Module) (name : String) :
    (lowerModule M).find name = (findFn M name).map lowerFn := by
  unfold Program.find findFn lowerModule
  simp only
  induction M.fns with
  | nil => rfl
  | cons f rest ih =>
    simp only [List.map_cons, List.find?_cons]
    have : (lowerFn f).name = f.name := rfl
    rw [this]
    cases hn : f.name == name
    · simpa using ih
    · simp

theorem findFn_mem {M : Core.Module} {name : String} {f : FnDef} (h : findFn M name = some f) : f ∈ M.fns := by
  unfold findFn at h
  exact List.mem_of_find?_eq_some h

end Sim
end Nsl
