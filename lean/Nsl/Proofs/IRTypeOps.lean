import Nsl.Proofs.IRTypeBase
import Nsl.Proofs.ScalarOps
/-!
# IR typing: the value-level operations of the VM on typed values

On operands of the static types the rule demands, a result has the declared type and a failure is not an internal one
(`noInt`) — except the conversion of a float to an integer kind (`okErr`).  A fallible operation gets a `Sound` statement,
proved along its `do` block by `Sound.bind`, one link per step.
-/
namespace Nsl
namespace IRType
open VM

def noInt (e : Err) : Prop := ∀ s, e ≠ .internal s

/-- the failures a checked program may end in: with `strict` no internal one at all, otherwise only `math.floor` of a
NaN / an infinity -/
def okErr (strict : Bool) (e : Err) : Prop := ∀ s, e = .internal s → strict = false ∧ s = "floor-of-nan-or-inf"

theorem noInt.ok {strict : Bool} {e : Err} (h : noInt e) : okErr strict e := fun s hs => absurd hs (h s)

theorem noInt_iff {e : Err} : noInt e ↔ e.isInternal = false := by
  cases e with
  | internal s => exact ⟨fun h => absurd rfl (h s), nofun⟩
  | _ => exact ⟨fun _ => rfl, fun _ _ h => nomatch h⟩

theorem noInt_divZero : noInt .divZero := noInt_iff.2 rfl
theorem noInt_indexOOB : noInt .indexOOB := noInt_iff.2 rfl
theorem noInt_unsupported (w : String) : noInt (.unsupported w) := noInt_iff.2 rfl

theorem scOK_isNum {s : Sc} {v : Val} (h : scOK s v = true) : v.isNum = true := Val.isNum_iff.2 (scOK_cases h)

theorem comps_cons {q : Val → Prop} {n : Nat} {z : Val} {zs : List Val} (hz : q z) (h : zs.length = n ∧ ∀ x ∈ zs, q x) :
    (z :: zs).length = n + 1 ∧ ∀ x ∈ z :: zs, q x :=
  ⟨by rw [List.length_cons, h.1], List.forall_mem_cons.2 ⟨hz, h.2⟩⟩

theorem arithOK_int {o : SOp} {s sa sb : Sc} (hs : scInt s = true) (ho : o = .add ∨ o = .sub ∨ o = .mul)
    (hk : arithOK o s sa sb = true) : scInt sa = true ∧ scInt sb = true := by
  cases s with
  | float => cases hs
  | int | uint => rcases ho with rfl | rfl | rfl <;> simpa only [arithOK, Bool.and_eq_true] using hk

/-- `it` (the "integer division" switch of the VM) matters for `/` only. -/
theorem scalarBin_sound {o : SOp} {it : Bool} {s sa sb : Sc} {a b : Val} (ha : scOK sa a = true)
    (hb : scOK sb b = true) (hk : arithOK o s sa sb = true) (hit : o = .div → it = scInt s) :
    Sound (scOK s · = true) noInt (scalarBin o it a b) := by
  refine (scalarBin_spec o it a b).mono ?_ fun e he => noInt_iff.2 (Bool.eq_false_iff.2 fun hi =>
    he hi ⟨scOK_isNum ha, scOK_isNum hb⟩)
  rintro z (⟨i, rfl⟩ | ⟨⟨f, rfl⟩, hf⟩)
  · exact scOK_int s i
  · -- a float fits unless `s` is an integer kind, and then neither way of getting a float is open
    cases hs : scInt s with
    | false => rw [scInt_false hs]; rfl
    | true =>
      exfalso
      rcases hf with ⟨rfl, hit'⟩ | ⟨hop, hab⟩
      · rw [hit rfl, hs] at hit'; cases hit'
      · have hk' := arithOK_int hs hop hk
        obtain ⟨x, rfl⟩ := scOK_isInt hk'.1 ha
        obtain ⟨y, rfl⟩ := scOK_isInt hk'.2 hb
        exact hab ⟨x, y, rfl, rfl⟩

theorem arithOK_div (s sa sb : Sc) : arithOK .div s sa sb = true := by
  cases s <;> rfl

theorem zipBin_sound {o : SOp} {it : Bool} {s sa sb : Sc} (hk : arithOK o s sa sb = true)
    (hit : o = .div → it = scInt s) (xs ys : List Val) (hx : ∀ x ∈ xs, scOK sa x = true)
    (hy : ∀ y ∈ ys, scOK sb y = true) (hl : xs.length = ys.length) :
    Sound (fun zs => zs.length = xs.length ∧ ∀ z ∈ zs, scOK s z = true) noInt (zipBin o it xs ys) := by
  induction xs generalizing ys with
  | nil => exact ⟨rfl, nofun⟩
  | cons x xs ih =>
    cases ys with
    | nil => cases hl
    | cons y ys =>
      have ⟨hx0, hxs⟩ := List.forall_mem_cons.1 hx
      have ⟨hy0, hys⟩ := List.forall_mem_cons.1 hy
      exact (scalarBin_sound hx0 hy0 hk hit).bind fun _ hz =>
        (ih ys hxs hys (Nat.succ.inj hl)).bind fun _ hzs => comps_cons hz hzs

theorem mapBinR_sound {o : SOp} {it : Bool} {s sa sb : Sc} {b : Val} (hk : arithOK o s sa sb = true)
    (hit : o = .div → it = scInt s) (hb : scOK sb b = true) (xs : List Val) (hx : ∀ x ∈ xs, scOK sa x = true) :
    Sound (fun zs => zs.length = xs.length ∧ ∀ z ∈ zs, scOK s z = true) noInt (mapBinR o it b xs) := by
  induction xs with
  | nil => exact ⟨rfl, nofun⟩
  | cons x xs ih =>
    have ⟨hx0, hxs⟩ := List.forall_mem_cons.1 hx
    exact (scalarBin_sound hx0 hb hk hit).bind fun _ hz => (ih hxs).bind fun _ hzs => comps_cons hz hzs

theorem dotOK_mul {s sa sb : Sc} (h : dotOK s sa sb = true) : arithOK .mul s sa sb = true := by
  cases s with
  | float => rfl
  | _ => exact h

theorem arithOK_add_self (s : Sc) : arithOK .add s s s = true := by
  cases s <;> rfl

theorem dotFrom_sound {s sa sb : Sc} (hk : dotOK s sa sb = true) (xs ys : List Val) (acc : Val)
    (hacc : scOK s acc = true) (hx : ∀ x ∈ xs, scOK sa x = true) (hy : ∀ y ∈ ys, scOK sb y = true) :
    Sound (scOK s · = true) noInt (dotFrom acc xs ys) := by
  induction xs generalizing ys acc with
  | nil => exact hacc
  | cons x xs ih =>
    cases ys with
    | nil => exact hacc
    | cons y ys =>
      have ⟨hx0, hxs⟩ := List.forall_mem_cons.1 hx
      have ⟨hy0, hys⟩ := List.forall_mem_cons.1 hy
      exact (scalarBin_sound (it := false) hx0 hy0 (dotOK_mul hk) nofun).bind fun _ hp =>
        (scalarBin_sound (it := false) hacc hp (arithOK_add_self s) nofun).bind fun acc' hacc' =>
          ih ys acc' hacc' hxs hys

theorem asList_list (vs : List Val) : asList (.list vs) = .ok vs := rfl

theorem column_ok {sb : Sc} {c j : Nat} (hj : j < c) (m : List Val) (hm : ∀ r ∈ m, valOK (.vec sb c) r = true) :
    ∃ col, column m j = .ok col ∧ ∀ y ∈ col, scOK sb y = true := by
  induction m with
  | nil => exact ⟨[], rfl, nofun⟩
  | cons r rs ih =>
    have ⟨hr, hrs⟩ := List.forall_mem_cons.1 hm
    obtain ⟨row, rfl, rfl, hrow⟩ := vec_iff.1 hr
    obtain ⟨col, hc, hcol⟩ := ih hrs
    refine ⟨row[j] :: col, ?_, List.forall_mem_cons.2 ⟨hrow _ (List.getElem_mem hj), hcol⟩⟩
    simp only [column, asList_list, bind, Except.bind, List.getElem?_eq_getElem hj, hc]

theorem matMulRow_sound {s sa sb : Sc} {c : Nat} (hk : dotOK s sa sb = true) {row m1 : List Val}
    (hrow : ∀ x ∈ row, scOK sa x = true) (hm : ∀ r ∈ m1, valOK (.vec sb c) r = true) (js : List Nat)
    (hjs : ∀ j ∈ js, j < c) :
    Sound (fun zs => zs.length = js.length ∧ ∀ z ∈ zs, scOK s z = true) noInt (matMulRow row m1 js) := by
  induction js with
  | nil => exact ⟨rfl, nofun⟩
  | cons j js ih =>
    have ⟨hj, hjs⟩ := List.forall_mem_cons.1 hjs
    obtain ⟨col, hc, hcol⟩ := column_ok (sb := sb) hj m1 hm
    rw [matMulRow, hc]
    exact (dotFrom_sound hk row col (.int 0) (scOK_int s 0) hrow hcol).bind fun _ hz =>
      (ih hjs).bind fun _ hzs => comps_cons hz hzs

theorem matMulGo_sound {s sa sb : Sc} {ca c : Nat} (hk : dotOK s sa sb = true) {m1 : List Val}
    (hm : ∀ r ∈ m1, valOK (.vec sb c) r = true) (m0 : List Val) (hm0 : ∀ r ∈ m0, valOK (.vec sa ca) r = true) :
    Sound (fun zs => zs.length = m0.length ∧ ∀ z ∈ zs, valOK (.vec s c) z = true) noInt (matMul.go c m1 m0) := by
  induction m0 with
  | nil => exact ⟨rfl, nofun⟩
  | cons r rs ih =>
    have ⟨hr, hrs⟩ := List.forall_mem_cons.1 hm0
    obtain ⟨row, rfl, _, hrow⟩ := vec_iff.1 hr
    exact (matMulRow_sound hk hrow hm (List.range c) fun _ hj => List.mem_range.1 hj).bind fun x hx =>
      (ih hrs).bind fun _ hzs => comps_cons (vec_iff.2 ⟨x, rfl, hx.1.trans List.length_range, hx.2⟩) hzs

theorem matMulVec_sound {s sa sb : Sc} {ca : Nat} (hk : dotOK s sa sb = true) {v : List Val}
    (hv : ∀ y ∈ v, scOK sb y = true) (m : List Val) (hm : ∀ r ∈ m, valOK (.vec sa ca) r = true) :
    Sound (fun zs => zs.length = m.length ∧ ∀ z ∈ zs, scOK s z = true) noInt (matMulVec m v) := by
  induction m with
  | nil => exact ⟨rfl, nofun⟩
  | cons r rs ih =>
    have ⟨hr, hrs⟩ := List.forall_mem_cons.1 hm
    obtain ⟨row, rfl, _, hrow⟩ := vec_iff.1 hr
    exact (dotFrom_sound hk row v (.int 0) (scOK_int s 0) hrow hv).bind fun _ hz =>
      (ih hrs).bind fun _ hzs => comps_cons hz hzs

end IRType
end Nsl
