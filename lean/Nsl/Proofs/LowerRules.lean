import Nsl.Model.Lower
/-!
# The lowering as a rule system

`lowerE`, `lowerArgs`, `lowerStore` and `lowerS` build code by appending the code of their sub-terms and single
instructions.  `Rules` and `SRules` list these productions as closure conditions on predicates over
(input, counter, code, result, next counter); predicates closed under them hold of everything the lowering produces.
An invariant of lowered code is one fact per production, without unfolding the functions.
-/
namespace Nsl
namespace Lower
open Core

/-- What `lowerE` appends after the code of the two operands of a binary node. -/
def binTail (op : BOp) (ty lt rt : ITy) (vl vr : Opd) (k : Nat) : List Instr × Opd × Nat :=
  if lt.isMatrix && rt.isMatrix then
    if op == .mul then ([.bin k .mMulM ty vl vr], .ref k, k + 1)
    else
      let (rc, rows, k3) := rowsMM op lt rt ty vl vr (rowCount lt) k
      (rc ++ [.construct k3 ty rows], .ref k3, k3 + 1)
  else if lt.isMatrix && rt.isVector then ([.bin k .mMulV ty vl vr], .ref k, k + 1)
  else if lt.isScalar && rt.isMatrix then
    let (rc, rows, k3) := rowsSM op lt rt ty vl vr (rowCount rt) k
    (rc ++ [.construct k3 ty rows], .ref k3, k3 + 1)
  else if lt.isMatrix && rt.isScalar then
    let (rc, rows, k3) := rowsMS op lt rt ty vl vr (rowCount lt) k
    (rc ++ [.construct k3 ty rows], .ref k3, k3 + 1)
  else ([mkBin k op ty vl lt vr rt], .ref k, k + 1)

def idxLoad : IdxKind → Nat → ITy → Opd → Opd → Instr
  | .arr => .loadArr
  | .vec => .vecGet
  | .mat => .matGet

/-- Expressions that `lowerStore` treats as targets; every other node is lowered for its value. -/
def isPlace : Expr → Bool
  | .var .. | .index .. | .member .. | .swizzle .. => true
  | _ => false

theorem lowerE_bin_eq (op : BOp) (ty : ITy) (l r : Expr) (k : Nat) :
    lowerE (.bin op ty l r) k =
      match lowerE l k with
      | (cl, vl, k1) => match lowerE r k1 with
        | (cr, vr, k2) => match binTail op ty (Expr.ty l) (Expr.ty r) vl vr k2 with
          | (ct, o, k3) => (cl ++ cr ++ ct, o, k3) := by
  rw [lowerE]
  rcases lowerE l k with ⟨cl, vl, k1⟩
  rcases lowerE r k1 with ⟨cr, vr, k2⟩
  dsimp only
  unfold binTail
  -- both sides branch on the same conditions; a row loop's code is appended in one step on the right
  by_cases h1 : ((Expr.ty l).isMatrix && (Expr.ty r).isMatrix) = true
  · rw [if_pos h1, if_pos h1]
    by_cases h2 : (op == BOp.mul) = true
    · rw [if_pos h2, if_pos h2]
    · rw [if_neg h2, if_neg h2, List.append_assoc]
  · rw [if_neg h1, if_neg h1]
    by_cases h2 : ((Expr.ty l).isMatrix && (Expr.ty r).isVector) = true
    · rw [if_pos h2, if_pos h2]
    · rw [if_neg h2, if_neg h2]
      by_cases h3 : ((Expr.ty l).isScalar && (Expr.ty r).isMatrix) = true
      · rw [if_pos h3, if_pos h3, List.append_assoc]
      · rw [if_neg h3, if_neg h3]
        by_cases h4 : ((Expr.ty l).isMatrix && (Expr.ty r).isScalar) = true
        · rw [if_pos h4, if_pos h4, List.append_assoc]
        · rw [if_neg h4, if_neg h4]

theorem lowerStore_other {e : Expr} (h : isPlace e = false) (v : Opd) (k : Nat) :
    lowerStore e v k = ((lowerE e k).1, (lowerE e k).2.2) := by
  cases e
  case var | index | member | swizzle => cases h
  all_goals simp only [lowerStore]

theorem mkBin_cases (dst : Nat) (op : BOp) (rty : ITy) (a : Opd) (ta : ITy) (b : Opd) (tb : ITy) :
    ∃ o, mkBin dst op rty a ta b tb = .bin dst o rty a b ∨ mkBin dst op rty a ta b tb = .bin dst o rty b a := by
  unfold mkBin
  split
  · exact ⟨_, .inl rfl⟩
  · exact ⟨_, .inr rfl⟩

/-- What the unrolled row loops `rowsMM`, `rowsMS`, `rowsSM` produce from counter `k` on: code, row operands, next
counter. -/
inductive RowCode (op : BOp) (lt rt resT : ITy) (l r : Opd) (k : Nat) : List Instr → List Opd → Nat → Prop
  | nil : RowCode op lt rt resT l r k [] [] k
  | mm {c rs k1} (n : Nat) : RowCode op lt rt resT l r k c rs k1 → RowCode op lt rt resT l r k
      (c ++ [.matGet k1 (rowType lt) l (.cInt n), .matGet (k1 + 1) (rowType rt) r (.cInt n),
        mkBin (k1 + 2) op (rowType resT) (.ref k1) (rowType lt) (.ref (k1 + 1)) (rowType rt)])
      (rs ++ [.ref (k1 + 2)]) (k1 + 3)
  | ms {c rs k1} (n : Nat) : RowCode op lt rt resT l r k c rs k1 → RowCode op lt rt resT l r k
      (c ++ [.matGet k1 (rowType lt) l (.cInt n), mkBin (k1 + 1) op (rowType resT) (.ref k1) (rowType lt) r rt])
      (rs ++ [.ref (k1 + 1)]) (k1 + 2)
  | sm {c rs k1} (n : Nat) : RowCode op lt rt resT l r k c rs k1 → RowCode op lt rt resT l r k
      (c ++ [.matGet k1 (rowType rt) r (.cInt n), mkBin (k1 + 1) op (rowType resT) l lt (.ref k1) (rowType rt)])
      (rs ++ [.ref (k1 + 1)]) (k1 + 2)

theorem rowsMM_code (op : BOp) (lt rt resT : ITy) (l r : Opd) (k : Nat) : ∀ n,
    RowCode op lt rt resT l r k (rowsMM op lt rt resT l r n k).1 (rowsMM op lt rt resT l r n k).2.1
      (rowsMM op lt rt resT l r n k).2.2
  | 0 => .nil
  | n + 1 => .mm n (rowsMM_code op lt rt resT l r k n)

theorem rowsMS_code (op : BOp) (lt rt resT : ITy) (l r : Opd) (k : Nat) : ∀ n,
    RowCode op lt rt resT l r k (rowsMS op lt rt resT l r n k).1 (rowsMS op lt rt resT l r n k).2.1
      (rowsMS op lt rt resT l r n k).2.2
  | 0 => .nil
  | n + 1 => .ms n (rowsMS_code op lt rt resT l r k n)

theorem rowsSM_code (op : BOp) (lt rt resT : ITy) (l r : Opd) (k : Nat) : ∀ n,
    RowCode op lt rt resT l r k (rowsSM op lt rt resT l r n k).1 (rowsSM op lt rt resT l r n k).2.1
      (rowsSM op lt rt resT l r n k).2.2
  | 0 => .nil
  | n + 1 => .sm n (rowsSM_code op lt rt resT l r k n)

theorem binTail_elim {P : List Instr → Opd → Nat → Prop} {op : BOp} {ty lt rt : ITy} {vl vr : Opd} {k : Nat}
    (prim : ∀ o, P [.bin k o ty vl vr] (.ref k) (k + 1)) (mk : P [mkBin k op ty vl lt vr rt] (.ref k) (k + 1))
    (rows : ∀ {rc rs k3}, RowCode op lt rt ty vl vr k rc rs k3 → P (rc ++ [.construct k3 ty rs]) (.ref k3) (k3 + 1))
    {ct : List Instr} {o : Opd} {k3 : Nat} (h : binTail op ty lt rt vl vr k = (ct, o, k3)) : P ct o k3 := by
  unfold binTail at h
  by_cases h1 : (lt.isMatrix && rt.isMatrix) = true
  · rw [if_pos h1] at h
    by_cases h2 : (op == BOp.mul) = true
    · rw [if_pos h2] at h; cases h; exact prim _
    · rw [if_neg h2] at h; cases h; exact rows (rowsMM_code ..)
  · rw [if_neg h1] at h
    by_cases h2 : (lt.isMatrix && rt.isVector) = true
    · rw [if_pos h2] at h; cases h; exact prim _
    · rw [if_neg h2] at h
      by_cases h3 : (lt.isScalar && rt.isMatrix) = true
      · rw [if_pos h3] at h; cases h; exact rows (rowsSM_code ..)
      · rw [if_neg h3] at h
        by_cases h4 : (lt.isMatrix && rt.isScalar) = true
        · rw [if_pos h4] at h; cases h; exact rows (rowsMS_code ..)
        · rw [if_neg h4] at h; cases h; exact mk

structure Rules (PE : Expr → Nat → List Instr → Opd → Nat → Prop)
    (PA : Args → Nat → List Instr → List Opd → Nat → Prop)
    (PS : Expr → Opd → Nat → List Instr → Nat → Prop) : Prop where
  litI : ∀ i k, PE (.litI i) k [] (.cInt i) k
  litF : ∀ f k, PE (.litF f) k [] (.cFlt f) k
  var : ∀ sc key ty k, PE (.var sc key ty) k [.load k ty sc key] (.ref k) (k + 1)
  bin : ∀ {op ty l r k cl vl k1 cr vr k2 ct o k3}, PE l k cl vl k1 → PE r k1 cr vr k2 →
    binTail op ty (Expr.ty l) (Expr.ty r) vl vr k2 = (ct, o, k3) → PE (.bin op ty l r) k (cl ++ cr ++ ct) o k3
  cast : ∀ {ty e k c v k1}, PE e k c v k1 → PE (.cast ty e) k (c ++ [.cast k1 ty v]) (.ref k1) (k1 + 1)
  assign : ∀ {lhs rhs k c v k1 cs k2}, PE rhs k c v k1 → PS lhs v k1 cs k2 → PE (.assign lhs rhs) k (c ++ cs) v k2
  affix : ∀ {post inc x k c v k1 cs k2}, PE x k c v k1 → PS x (.ref k1) (k1 + 1) cs k2 →
    PE (.affix post inc x) k (c ++ [.bin k1 (.s (if inc then .add else .sub)) (Expr.ty x) v (.cInt 1)] ++ cs)
      (if post then v else .ref k1) k2
  call : ∀ {fn ty args k c vs k1}, PA args k c vs k1 → PE (.call fn ty args) k (c ++ [.call k1 ty fn vs]) (.ref k1) (k1 + 1)
  index : ∀ {kind ty base idx k cb vb k1 ci vi k2}, PE base k cb vb k1 → PE idx k1 ci vi k2 →
    PE (.index kind ty base idx) k (cb ++ ci ++ [idxLoad kind k2 ty vb vi]) (.ref k2) (k2 + 1)
  member : ∀ {ty base field k cb vb k1}, PE base k cb vb k1 →
    PE (.member ty base field) k (cb ++ [.loadMem k1 ty vb field]) (.ref k1) (k1 + 1)
  swizzle : ∀ {ty base idxs k cb vb k1}, PE base k cb vb k1 →
    PE (.swizzle ty base idxs) k (cb ++ [.shuffle k1 ty vb vb idxs]) (.ref k1) (k1 + 1)
  construct : ∀ {ty args k c vs k1}, PA args k c vs k1 →
    PE (.construct ty args) k (c ++ [.construct k1 ty vs]) (.ref k1) (k1 + 1)
  nil : ∀ k, PA .nil k [] [] k
  cons : ∀ {e rest k c v k1 cs vs k2}, PE e k c v k1 → PA rest k1 cs vs k2 → PA (.cons e rest) k (c ++ cs) (v :: vs) k2
  storeVar : ∀ sc key ty v k, PS (.var sc key ty) v k [.store sc key v] (k + 1)
  storeArr : ∀ {ty base idx v k cb vb k1 ci vi k2}, PE base k cb vb k1 → PE idx k1 ci vi k2 →
    PS (.index .arr ty base idx) v k (cb ++ ci ++ [.storeArr vb vi v]) (k2 + 1)
  storeVec : ∀ {ty base idx v k cb vb k1 ci vi k2 cs k3}, PE base k cb vb k1 → PE idx k1 ci vi k2 →
    PS base (.ref k2) (k2 + 1) cs k3 → PS (.index .vec ty base idx) v k (cb ++ ci ++ [.vecSet k2 ty vb vi v] ++ cs) k3
  storeMat : ∀ {ty base idx v k cb vb k1 ci vi k2 cs k3}, PE base k cb vb k1 → PE idx k1 ci vi k2 →
    PS base (.ref k2) (k2 + 1) cs k3 → PS (.index .mat ty base idx) v k (cb ++ ci ++ [.matSet k2 ty vb vi v] ++ cs) k3
  storeMem : ∀ {ty base field v k cb vb k1}, PE base k cb vb k1 →
    PS (.member ty base field) v k (cb ++ [.storeMem vb field v]) (k1 + 1)
  storeSwz : ∀ {ty base idxs v k cb vb k1 cs k2}, PE base k cb vb k1 → PS base (.ref k1) (k1 + 1) cs k2 →
    PS (.swizzle ty base idxs) v k
      (cb ++ [.shuffle k1 (Expr.ty base) vb v (storeShuffleIdx (vecSize (Expr.ty base)) idxs)] ++ cs) k2
  storeOther : ∀ {e v k c o k1}, isPlace e = false → PE e k c o k1 → PS e v k c k1


variable {PE : Expr → Nat → List Instr → Opd → Nat → Prop} {PA : Args → Nat → List Instr → List Opd → Nat → Prop}
  {PS : Expr → Opd → Nat → List Instr → Nat → Prop}

mutual
  theorem Rules.lowerE (R : Rules PE PA PS) : ∀ (e : Expr) (k : Nat), PE e k (lowerE e k).1 (lowerE e k).2.1 (lowerE e k).2.2
    | .litI i, k => by simp only [Lower.lowerE]; exact R.litI i k
    | .litF f, k => by simp only [Lower.lowerE]; exact R.litF f k
    | .var sc key ty, k => by simp only [Lower.lowerE]; exact R.var sc key ty k
    | .bin op ty l r, k => by
      rw [lowerE_bin_eq]
      -- eta for `binTail … = (_, _, _)` spelt out: with `rfl` the unifier unfolds `binTail` first
      exact R.bin (R.lowerE l k) (R.lowerE r _) (Prod.ext rfl (Prod.ext rfl rfl))
    | .cast ty e, k => by simp only [Lower.lowerE]; exact R.cast (R.lowerE e k)
    | .assign lhs rhs, k => by
      simp only [Lower.lowerE]; exact R.assign (R.lowerE rhs k) (R.storeAux lhs (R.lowerE lhs) _ _)
    | .affix post inc x, k => by
      simp only [Lower.lowerE]; exact R.affix (R.lowerE x k) (R.storeAux x (R.lowerE x) _ _)
    | .call fn ty args, k => by simp only [Lower.lowerE]; exact R.call (R.lowerArgs args k)
    | .index kind ty base idx, k => by
      have := R.index (kind := kind) (ty := ty) (R.lowerE base k) (R.lowerE idx _)
      simp only [Lower.lowerE]
      cases kind <;> exact this
    | .member ty base field, k => by simp only [Lower.lowerE]; exact R.member (R.lowerE base k)
    | .swizzle ty base idxs, k => by simp only [Lower.lowerE]; exact R.swizzle (R.lowerE base k)
    | .construct ty args, k => by simp only [Lower.lowerE]; exact R.construct (R.lowerArgs args k)
  theorem Rules.lowerArgs (R : Rules PE PA PS) : ∀ (as : Args) (k : Nat),
      PA as k (lowerArgs as k).1 (lowerArgs as k).2.1 (lowerArgs as k).2.2
    | .nil, k => by simp only [Lower.lowerArgs]; exact R.nil k
    | .cons e rest, k => by simp only [Lower.lowerArgs]; exact R.cons (R.lowerE e k) (R.lowerArgs rest _)
  /-- `lowerStore e` falls back on `lowerE e` for the same `e`; taking that case as a hypothesis keeps the recursion
  structural. -/
  theorem Rules.storeAux (R : Rules PE PA PS) : ∀ (e : Expr),
      (∀ k, PE e k (Lower.lowerE e k).1 (Lower.lowerE e k).2.1 (Lower.lowerE e k).2.2) → ∀ (v : Opd) (k : Nat),
      PS e v k (lowerStore e v k).1 (lowerStore e v k).2
    | .var sc key ty, _, v, k => by simp only [Lower.lowerStore]; exact R.storeVar sc key ty v k
    | .index .arr ty base idx, _, v, k => by
      simp only [Lower.lowerStore]; exact R.storeArr (R.lowerE base k) (R.lowerE idx _)
    | .index .vec ty base idx, _, v, k => by
      simp only [Lower.lowerStore]
      exact R.storeVec (R.lowerE base k) (R.lowerE idx _) (R.storeAux base (R.lowerE base) _ _)
    | .index .mat ty base idx, _, v, k => by
      simp only [Lower.lowerStore]
      exact R.storeMat (R.lowerE base k) (R.lowerE idx _) (R.storeAux base (R.lowerE base) _ _)
    | .member ty base field, _, v, k => by simp only [Lower.lowerStore]; exact R.storeMem (R.lowerE base k)
    | .swizzle ty base idxs, _, v, k => by
      simp only [Lower.lowerStore]; exact R.storeSwz (R.lowerE base k) (R.storeAux base (R.lowerE base) _ _)
    | .litI i, he, v, k => by rw [lowerStore_other rfl]; exact R.storeOther rfl (he k)
    | .litF f, he, v, k => by rw [lowerStore_other rfl]; exact R.storeOther rfl (he k)
    | .bin op ty l r, he, v, k => by rw [lowerStore_other rfl]; exact R.storeOther rfl (he k)
    | .cast ty e, he, v, k => by rw [lowerStore_other rfl]; exact R.storeOther rfl (he k)
    | .assign lhs rhs, he, v, k => by rw [lowerStore_other rfl]; exact R.storeOther rfl (he k)
    | .affix post inc x, he, v, k => by rw [lowerStore_other rfl]; exact R.storeOther rfl (he k)
    | .call fn ty args, he, v, k => by rw [lowerStore_other rfl]; exact R.storeOther rfl (he k)
    | .construct ty args, he, v, k => by rw [lowerStore_other rfl]; exact R.storeOther rfl (he k)
end

theorem Rules.lowerStore (R : Rules PE PA PS) (e : Expr) (v : Opd) (k : Nat) :
    PS e v k (lowerStore e v k).1 (lowerStore e v k).2 :=
  R.storeAux e (R.lowerE e) v k

theorem Rules.ofE (R : Rules PE PA PS) {e : Expr} {k : Nat} {c : List Instr} {o : Opd} {k' : Nat}
    (h : Lower.lowerE e k = (c, o, k')) : PE e k c o k' := by
  have := R.lowerE e k; rwa [h] at this

theorem Rules.ofArgs (R : Rules PE PA PS) {as : Args} {k : Nat} {c : List Instr} {os : List Opd} {k' : Nat}
    (h : Lower.lowerArgs as k = (c, os, k')) : PA as k c os k' := by
  have := R.lowerArgs as k; rwa [h] at this

theorem Rules.ofStore (R : Rules PE PA PS) {e : Expr} {v : Opd} {k : Nat} {c : List Instr} {k' : Nat}
    (h : Lower.lowerStore e v k = (c, k')) : PS e v k c k' := by
  have := R.lowerStore e v k; rwa [h] at this

theorem lowerOptE_elim {Q : List Instr → Option Opd → Nat → Prop} {oe : Option Expr} {k : Nat} {c : List Instr}
    {o : Option Opd} {k' : Nat} (h : lowerOptE oe k = (c, o, k')) (none : oe = none → Q [] none k)
    (some : ∀ e v, oe = some e → lowerE e k = (c, v, k') → Q c (some v) k') : Q c o k' := by
  cases oe with
  | none => cases h; exact none rfl
  | some e => cases h; exact some e _ rfl rfl

/-- The code of an expression enters through the equation that produced it, so that an instance can bring whatever
it knows about expression code. -/
structure SRules (P : Option Nat → Option Nat → Stmt → Nat → List Instr → Nat → Prop) : Prop where
  skip : ∀ brk cont k, P brk cont .skip k [] k
  declNone : ∀ brk cont name ty k, P brk cont (.decl name ty none) k [.newVar k ty name] (k + 1)
  declInit : ∀ brk cont name ty {e k c v k1}, Lower.lowerE e (k + 1) = (c, v, k1) →
    P brk cont (.decl name ty (some e)) k ([.newVar k ty name] ++ c ++ [.store .local (.name name) v]) (k1 + 1)
  expr : ∀ brk cont {e k c v k1}, Lower.lowerE e k = (c, v, k1) → P brk cont (.expr e) k c k1
  seq : ∀ {brk cont a b k ca k1 cb k2}, P brk cont a k ca k1 → P brk cont b k1 cb k2 →
    P brk cont (.seq a b) k (ca ++ cb) k2
  ite1 : ∀ {brk cont c t k cc v k1 ct k2}, Lower.lowerE c k = (cc, v, k1) → P brk cont t (k1 + 2) ct k2 →
    P brk cont (.ite1 c t) k (cc ++ [.brc v k1 (k1 + 1), .label k1] ++ ct ++ [.label (k1 + 1)]) k2
  ite2 : ∀ {brk cont c t e k cc v k1 ct k2 ce k3}, Lower.lowerE c k = (cc, v, k1) → P brk cont t (k1 + 3) ct k2 →
    P brk cont e k2 ce k3 →
    P brk cont (.ite2 c t e) k
      (cc ++ [.brc v k1 (k1 + 1), .label k1] ++ ct ++ [.br (k1 + 2), .label (k1 + 1)] ++ ce ++ [.label (k1 + 2)]) k3
  whileL : ∀ {brk cont c body k cc v k1 cb k2}, Lower.lowerE c (k + 3) = (cc, v, k1) →
    P (some (k + 2)) (some k) body k1 cb k2 →
    P brk cont (.whileL c body) k
      ([.label k] ++ cc ++ [.brc v (k + 1) (k + 2), .label (k + 1)] ++ cb ++ [.br k, .label (k + 2)]) k2
  doL : ∀ {brk cont body c k cb k1 cc v k2}, P (some (k + 2)) (some (k + 1)) body (k + 3) cb k1 →
    Lower.lowerE c k1 = (cc, v, k2) →
    P brk cont (.doL body c) k
      ([.label k] ++ cb ++ [.label (k + 1)] ++ cc ++ [.brc v k (k + 2), .label (k + 2)]) k2
  forL : ∀ {brk cont init c next body k ci k0 cc v k1 cb k2 cn vn k3}, P brk cont init k ci k0 →
    lowerOptE c (k0 + 4) = (cc, v, k1) → P (some (k0 + 3)) (some (k0 + 2)) body k1 cb k2 →
    lowerOptE next k2 = (cn, vn, k3) →
    P brk cont (.forL init c next body) k
      (ci ++ [.label k0] ++ cc ++ [forBranch v (k0 + 1) (k0 + 3), .label (k0 + 1)] ++ cb ++ [.label (k0 + 2)] ++ cn ++
        [.br k0, .label (k0 + 3)]) k3
  brk : ∀ brk cont k, P brk cont .brk k [.br (brk.getD 0)] (k + 1)
  cont : ∀ brk cont k, P brk cont .cont k [.br (cont.getD 0)] (k + 1)
  retNone : ∀ brk cont k, P brk cont (.ret none) k [.ret none] (k + 1)
  retSome : ∀ brk cont {e k c v k1}, Lower.lowerE e k = (c, v, k1) →
    P brk cont (.ret (some e)) k (c ++ [.ret (some v)]) (k1 + 1)

theorem SRules.lowerS {P : Option Nat → Option Nat → Stmt → Nat → List Instr → Nat → Prop} (R : SRules P) :
    ∀ (s : Stmt) (brk cont : Option Nat) (k : Nat), P brk cont s k (lowerS brk cont s k).1 (lowerS brk cont s k).2
  | .skip, brk, cont, k => R.skip brk cont k
  | .decl name ty none, brk, cont, k => R.declNone brk cont name ty k
  | .decl name ty (some _), brk, cont, _ => R.declInit brk cont name ty rfl
  | .expr _, brk, cont, _ => R.expr brk cont rfl
  | .seq a b, brk, cont, k => R.seq (R.lowerS a brk cont k) (R.lowerS b brk cont _)
  | .ite1 _ t, brk, cont, _ => R.ite1 rfl (R.lowerS t brk cont _)
  | .ite2 _ t e, brk, cont, _ => R.ite2 rfl (R.lowerS t brk cont _) (R.lowerS e brk cont _)
  | .whileL _ body, _, _, _ => R.whileL rfl (R.lowerS body _ _ _)
  | .doL body _, _, _, _ => R.doL (R.lowerS body _ _ _) rfl
  | .forL init _ _ body, brk, cont, k => R.forL (R.lowerS init brk cont k) rfl (R.lowerS body _ _ _) rfl
  | .brk, brk, cont, k => R.brk brk cont k
  | .cont, brk, cont, k => R.cont brk cont k
  | .ret none, brk, cont, k => R.retNone brk cont k
  | .ret (some _), brk, cont, _ => R.retSome brk cont rfl

theorem SRules.ofS {P : Option Nat → Option Nat → Stmt → Nat → List Instr → Nat → Prop} (R : SRules P)
    {s : Stmt} {brk cont : Option Nat} {k : Nat} {c : List Instr} {k' : Nat}
    (h : Lower.lowerS brk cont s k = (c, k')) : P brk cont s k c k' := by
  have := R.lowerS s brk cont k; rwa [h] at this

end Lower
end Nsl
