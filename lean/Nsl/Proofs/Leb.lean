import Nsl.Model.Leb

/-!
LEB128. `packLoop k v` emits `k` base-128 digits of `v`, low digit first. `PackInteger` is `packLoop`
at `blockCount v` blocks; `encS` is `packLoop` at its own length, the least `k + 1` with `FitsS k v`;
the signed decoder returns `v` from `packLoop (k + 1) v` exactly when `FitsS k v`. `bitLength` is used
only through its specification `bitLength_le_iff`.
-/

namespace Nsl.Leb

theorem digit_lt (v : Int) : (v % 128).toNat < 128 := by omega

theorem digit_cast (v : Int) : ((v % 128).toNat : Int) = v % 128 :=
  Int.toNat_of_nonneg (Int.emod_nonneg v (by decide))

/-- By computation: `Int.emod`, `Int.div`, `Int.toNat` on `Int.ofNat` are the `Nat` operations. -/
theorem digit_natCast (n : Nat) : ((n : Int) % 128).toNat = n % 128 := rfl

theorem natCast_div128 (n : Nat) : (n : Int) / 128 = ((n / 128 : Nat) : Int) := rfl

theorem pow_shift_nat (s : Nat) : 2 ^ (s + 7) = 128 * 2 ^ s := by
  rw [Nat.pow_add, Nat.mul_comm]

theorem shift_step_nat (n s : Nat) : n % 128 * 2 ^ s + n / 128 * 2 ^ (s + 7) = n * 2 ^ s := by
  rw [pow_shift_nat, ← Nat.mul_assoc, ← Nat.add_mul, Nat.mul_comm (n / 128), Nat.mod_add_div]

theorem pow_shift (s : Nat) : (2 : Int) ^ (s + 7) = 128 * 2 ^ s := by
  rw [Int.pow_add, Int.mul_comm]; rfl

theorem shift_step (v : Int) (s : Nat) : v % 128 * 2 ^ s + v / 128 * 2 ^ (s + 7) = v * 2 ^ s := by
  rw [pow_shift, ← Int.mul_assoc, ← Int.add_mul, Int.mul_comm (v / 128), Int.emod_add_mul_ediv]

/-- The signed decoder reads a last digit `d` as `d` or, with bit 6 set, as `d - 128`. -/
theorem signedDigit_eq_iff (v : Int) :
    (if 64 ≤ v % 128 then v % 128 - 128 else v % 128) = v ↔ (-64 ≤ v ∧ v < 64) := by
  split <;> omega

theorem mul_pow2_cancel (x y : Int) (s : Nat) : x * 2 ^ s = y * 2 ^ s ↔ x = y :=
  Int.mul_eq_mul_right_iff (Int.ne_of_gt (Int.pow_pos (by decide)))

theorem decULoop_last {b : Nat} (hb : b < 128) (acc s : Nat) (bs : List Nat) :
    decULoop acc s (b :: bs) = some (acc + b * 2 ^ s, bs) := by
  rw [decULoop, if_pos hb, Nat.mod_eq_of_lt hb]

theorem decULoop_cont {b : Nat} (hb : b < 128) (acc s : Nat) (bs : List Nat) :
    decULoop acc s ((b + 128) :: bs) = decULoop (acc + b * 2 ^ s) (s + 7) bs := by
  rw [decULoop, if_neg (by omega), Nat.add_mod_right, Nat.mod_eq_of_lt hb]

theorem decSLoop_last {b : Nat} (hb : b < 128) (acc : Int) (s : Nat) (bs : List Nat) :
    decSLoop acc s (b :: bs) =
      some (acc + (if (64 : Int) ≤ b then (b : Int) - 128 else b) * 2 ^ s, bs) := by
  rw [decSLoop, if_pos hb, Nat.mod_eq_of_lt hb]
  by_cases h : 64 ≤ b
  · rw [if_pos h, if_pos (show (64 : Int) ≤ b from Int.ofNat_le.2 h), pow_shift, Int.sub_mul, Int.add_sub_assoc]
  · rw [if_neg h, if_neg (show ¬ (64 : Int) ≤ b from mt Int.ofNat_le.1 h)]

theorem decSLoop_cont {b : Nat} (hb : b < 128) (acc : Int) (s : Nat) (bs : List Nat) :
    decSLoop acc s ((b + 128) :: bs) = decSLoop (acc + (b : Int) * 2 ^ s) (s + 7) bs := by
  rw [decSLoop, if_neg (by omega), Nat.add_mod_right, Nat.mod_eq_of_lt hb]

theorem packLoop_one (v : Int) : packLoop 1 v = [(v % 128).toNat] := rfl

theorem packLoop_succ_succ (k : Nat) (v : Int) :
    packLoop (k + 2) v = ((v % 128).toNat + 128) :: packLoop (k + 1) (v / 128) := rfl

theorem packLoop_length (k : Nat) (v : Int) : (packLoop k v).length = k := by
  induction k generalizing v with
  | zero => rfl
  | succ k ih => rw [packLoop, List.length_cons, ih]

theorem encUAux_indep (f1 f2 n : Nat) (h1 : n ≤ f1) (h2 : n ≤ f2) :
    encUAux f1 n = encUAux f2 n := by
  induction f1 generalizing f2 n with
  | zero =>
    obtain rfl := Nat.eq_zero_of_le_zero h1
    cases f2 <;> rfl
  | succ f1 ih =>
    cases f2 with
    | zero =>
      obtain rfl := Nat.eq_zero_of_le_zero h2
      rfl
    | succ f2 =>
      rw [encUAux, encUAux]
      split
      · rfl
      · rw [ih f2 (n / 128) (by omega) (by omega)]

theorem encU_eq (n : Nat) :
    encU n = if n < 128 then [n] else (n % 128 + 128) :: encU (n / 128) := by
  unfold encU
  cases n with
  | zero => rfl
  | succ n => rw [encUAux, encUAux_indep n ((n + 1) / 128) ((n + 1) / 128) (by omega) (Nat.le_refl _)]

theorem encU_small {n : Nat} (h : n < 128) : encU n = [n] := by
  rw [encU_eq, if_pos h]

theorem encU_big {n : Nat} (h : ¬ n < 128) : encU n = (n % 128 + 128) :: encU (n / 128) := by
  rw [encU_eq, if_neg h]

theorem encU_induct (P : Nat → Prop) (base : ∀ n, n < 128 → P n)
    (step : ∀ n, ¬ n < 128 → P (n / 128) → P n) : ∀ n, P n := by
  intro n
  induction n using Nat.strongRecOn with
  | ind n ih =>
    by_cases h : n < 128
    · exact base n h
    · exact step n h (ih _ (by omega))

/-- The stop test of `encSAux` (`PackSignedInteger`). -/
def stopS (v : Int) : Prop :=
  (v / 128 = 0 ∧ (v % 128).toNat < 64) ∨ (v / 128 = -1 ∧ (v % 128).toNat ≥ 64)

instance (v : Int) : Decidable (stopS v) := by unfold stopS; infer_instance

theorem encSAux_succ (f : Nat) (v : Int) :
    encSAux (f + 1) v =
      if stopS v then [(v % 128).toNat] else ((v % 128).toNat + 128) :: encSAux f (v / 128) := rfl

theorem stopS_iff (v : Int) : stopS v ↔ (-64 ≤ v ∧ v < 64) := by
  unfold stopS; omega

theorem natAbs_div_lt {v : Int} (h : ¬ stopS v) : (v / 128).natAbs < v.natAbs := by
  rw [stopS_iff] at h; omega

theorem encSAux_indep (f1 f2 : Nat) (v : Int) (h1 : v.natAbs < f1) (h2 : v.natAbs < f2) :
    encSAux f1 v = encSAux f2 v := by
  induction f1 generalizing f2 v with
  | zero => exact absurd h1 (Nat.not_lt_zero _)
  | succ f1 ih =>
    cases f2 with
    | zero => exact absurd h2 (Nat.not_lt_zero _)
    | succ f2 =>
      rw [encSAux_succ, encSAux_succ]
      split
      · rfl
      · rename_i hs
        have := natAbs_div_lt hs
        rw [ih f2 (v / 128) (by omega) (by omega)]

theorem encS_eq (v : Int) :
    encS v = if stopS v then [(v % 128).toNat]
             else ((v % 128).toNat + 128) :: encS (v / 128) := by
  rw [encS, encSAux_succ]
  split
  · rfl
  · rename_i hs
    have := natAbs_div_lt hs
    rw [encS, encSAux_indep v.natAbs ((v / 128).natAbs + 1) (v / 128) (by omega) (by omega)]

theorem encS_stop {v : Int} (h : stopS v) : encS v = [(v % 128).toNat] := by
  rw [encS_eq, if_pos h]

theorem encS_cont {v : Int} (h : ¬ stopS v) :
    encS v = ((v % 128).toNat + 128) :: encS (v / 128) := by
  rw [encS_eq, if_neg h]

theorem encS_induct (P : Int → Prop) (base : ∀ v, stopS v → P v)
    (step : ∀ v, ¬ stopS v → P (v / 128) → P v) : ∀ v, P v := by
  intro v
  generalize hn : v.natAbs = n
  induction n using Nat.strongRecOn generalizing v with
  | ind n ih =>
    by_cases h : stopS v
    · exact base v h
    · have := natAbs_div_lt h
      exact step v h (ih _ (by omega) _ rfl)

theorem encS_length_pos (v : Int) : 0 < (encS v).length := by
  rw [encS_eq]; split <;> exact Nat.succ_pos _

theorem bitLengthAux_le_iff (f n L : Nat) (h : n ≤ f) : bitLengthAux f n ≤ L ↔ n < 2 ^ L := by
  induction f generalizing n L with
  | zero =>
    obtain rfl := Nat.eq_zero_of_le_zero h
    exact iff_of_true (Nat.zero_le L) (Nat.pow_pos (by decide))
  | succ f ih =>
    rw [bitLengthAux]
    split
    · subst n; exact iff_of_true (Nat.zero_le L) (Nat.pow_pos (by decide))
    · cases L with
      | zero => exact iff_of_false (Nat.not_succ_le_zero _) (by omega)
      | succ L =>
        rw [Nat.add_le_add_iff_right, ih (n / 2) L (by omega), Nat.pow_succ]
        omega

/-- Specification of `int.bit_length`. -/
theorem bitLength_le_iff (L n : Nat) : bitLength n ≤ L ↔ n < 2 ^ L :=
  bitLengthAux_le_iff n n L (Nat.le_refl n)

theorem bitLength_zero : bitLength 0 = 0 := rfl

/-- Both sides are the least `L` bounding the same set, by `bitLength_le_iff`. -/
theorem bitLength_shift {n j : Nat} (h : j ≤ bitLength n) :
    bitLength n = bitLength (n / 2 ^ j) + j := by
  have key (L : Nat) : bitLength (n / 2 ^ j) ≤ L ↔ bitLength n ≤ L + j := by
    rw [bitLength_le_iff, bitLength_le_iff, Nat.pow_add,
      Nat.div_lt_iff_lt_mul (Nat.pow_pos (by decide))]
  have a := (key (bitLength (n / 2 ^ j))).1 (Nat.le_refl _)
  have b := (key (bitLength n - j)).2 (by omega)
  omega

theorem bitLength_pred (m : Nat) :
    bitLength (m - 1) ≤ bitLength m ∧ bitLength m ≤ bitLength (m - 1) + 1 := by
  have h1 := (bitLength_le_iff (bitLength m) m).1 (Nat.le_refl _)
  have h2 := (bitLength_le_iff (bitLength (m - 1)) (m - 1)).1 (Nat.le_refl _)
  rw [bitLength_le_iff, bitLength_le_iff, Nat.pow_succ]
  omega

theorem bitLength_pred_lt_iff {m : Nat} (hm : 0 < m) :
    bitLength (m - 1) < bitLength m ↔ m = 2 ^ (bitLength m - 1) := by
  -- with `L = bitLength m - 1`: `2 ^ L ≤ m` (`hlow`), and the left side says `m - 1 < 2 ^ L` (`key`)
  have hpos := bitLength_le_iff 0 m
  have hlow := bitLength_le_iff (bitLength m - 1) m
  have key := bitLength_le_iff (bitLength m - 1) (m - 1)
  omega

/-- `ceil(bit_length(|v|) / 7)`, the block count of `PackInteger`. -/
def blockCount (v : Int) : Nat := (bitLength v.natAbs + 6) / 7

theorem packInteger_of_ne {v : Int} (h : v ≠ 0) : packInteger v = packLoop (blockCount v) v := by
  rw [packInteger, if_neg h, blockCount]

theorem blockCount_bounds (v : Int) :
    7 * blockCount v ≤ bitLength v.natAbs + 6 ∧ bitLength v.natAbs ≤ 7 * blockCount v := by
  unfold blockCount; omega

theorem blockCount_le_iff (v : Int) (k : Nat) : blockCount v ≤ k ↔ v.natAbs < 128 ^ k := by
  have := blockCount_bounds v
  rw [show (128 : Nat) ^ k = 2 ^ (7 * k) from (Nat.pow_mul 2 7 k).symm, ← bitLength_le_iff]
  omega

theorem blockCount_pos {v : Int} (h : v ≠ 0) : 0 < blockCount v := by
  have := blockCount_le_iff v 0
  omega

theorem blockCount_succ {n : Nat} (h : ¬ n < 128) :
    blockCount (n : Int) = blockCount ((n / 128 : Nat) : Int) + 1 := by
  have h7 : 7 ≤ bitLength n := by have := bitLength_le_iff 6 n; omega
  have : bitLength n = bitLength (n / 128) + 7 := bitLength_shift h7
  unfold blockCount
  rw [Int.natAbs_natCast, Int.natAbs_natCast]
  omega

theorem packLoop_nat : ∀ (n : Nat), n ≠ 0 → packLoop (blockCount n) (n : Int) = encU n := by
  intro n
  induction n using encU_induct with
  | base n h =>
    intro h0
    have h1 := blockCount_pos (Int.natCast_ne_zero.2 h0)
    have h2 := (blockCount_le_iff n 1).2 h
    rw [Nat.le_antisymm h2 h1, encU_small h, packLoop_one, digit_natCast, Nat.mod_eq_of_lt h]
  | step n h ih =>
    intro _
    have h0 : n / 128 ≠ 0 := by omega
    obtain ⟨c, hc⟩ := Nat.exists_eq_add_one.2 (blockCount_pos (Int.natCast_ne_zero.2 h0))
    rw [encU_big h, ← ih h0, blockCount_succ h, hc, packLoop_succ_succ, digit_natCast, natCast_div128]

theorem decULoop_encU (rest : List Nat) : ∀ (n acc s : Nat),
    decULoop acc s (encU n ++ rest) = some (acc + n * 2 ^ s, rest) := by
  intro n
  induction n using encU_induct with
  | base n h => intro acc s; rw [encU_small h]; exact decULoop_last h acc s rest
  | step n h ih =>
    intro acc s
    rw [encU_big h, List.cons_append, decULoop_cont (Nat.mod_lt n (by decide)), ih, Nat.add_assoc,
      shift_step_nat]

theorem encU_length_le (k n : Nat) (h : n < 128 ^ (k + 1)) : (encU n).length ≤ k + 1 := by
  by_cases h0 : n = 0
  · subst h0; exact Nat.le_add_left 1 k
  · rw [← packLoop_nat n h0, packLoop_length, blockCount_le_iff]
    exact h

/-- Every byte but the last has the continuation bit (is in `[128, 256)`), the last has it clear. -/
def SelfDelimiting (bs : List Nat) : Prop :=
  ∃ pre last, bs = pre ++ [last] ∧ (∀ b ∈ pre, 128 ≤ b ∧ b < 256) ∧ last < 128

theorem selfDelimiting_cons {b : Nat} {bs : List Nat} (hb : 128 ≤ b ∧ b < 256)
    (h : SelfDelimiting bs) : SelfDelimiting (b :: bs) := by
  obtain ⟨pre, last, rfl, hp, hl⟩ := h
  refine ⟨b :: pre, last, rfl, ?_, hl⟩
  intro x hx
  rcases List.mem_cons.1 hx with rfl | hx
  · exact hb
  · exact hp x hx

theorem selfDelimiting_single {b : Nat} (hb : b < 128) : SelfDelimiting [b] :=
  ⟨[], b, rfl, by simp, hb⟩

theorem SelfDelimiting.bytes {bs : List Nat} (h : SelfDelimiting bs) : ∀ b ∈ bs, b < 256 := by
  obtain ⟨pre, last, rfl, hp, hl⟩ := h
  intro b hb
  rcases List.mem_append.1 hb with hb | hb
  · exact (hp b hb).2
  · simp at hb; omega

theorem SelfDelimiting.dropLast {bs : List Nat} (h : SelfDelimiting bs) :
    ∀ b ∈ bs.dropLast, 128 ≤ b := by
  obtain ⟨pre, last, rfl, hp, hl⟩ := h
  intro b hb
  simp at hb
  exact (hp b hb).1

theorem SelfDelimiting.getLast {bs : List Nat} (h : SelfDelimiting bs) :
    ∃ l, bs.getLast? = some l ∧ l < 128 := by
  obtain ⟨pre, last, rfl, hp, hl⟩ := h
  exact ⟨last, by simp, hl⟩

theorem encU_selfDelimiting (n : Nat) : SelfDelimiting (encU n) := by
  induction n using encU_induct with
  | base n h => rw [encU_small h]; exact selfDelimiting_single h
  | step n h ih => rw [encU_big h]; exact selfDelimiting_cons (by omega) ih

theorem encS_selfDelimiting (v : Int) : SelfDelimiting (encS v) := by
  induction v using encS_induct with
  | base v h => rw [encS_stop h]; exact selfDelimiting_single (digit_lt v)
  | step v h ih =>
    rw [encS_cont h]
    exact selfDelimiting_cons ⟨Nat.le_add_left _ _, Nat.add_lt_add_right (digit_lt v) 128⟩ ih

/-- `v` fits in `7 * (k + 1)` bits, two's complement. -/
def FitsS (k : Nat) (v : Int) : Prop := -(64 * 128 ^ k) ≤ v ∧ v < 64 * 128 ^ k

theorem fitsS_zero (v : Int) : FitsS 0 v ↔ stopS v := by
  rw [stopS_iff]; unfold FitsS; omega

theorem fitsS_succ (k : Nat) (v : Int) : FitsS (k + 1) v ↔ FitsS k (v / 128) := by
  unfold FitsS; omega

theorem fitsS_of_stopS {v : Int} (h : stopS v) (k : Nat) : FitsS k v := by
  have hpos : (0 : Int) < 128 ^ k := Int.pow_pos (by decide)
  rw [stopS_iff] at h
  unfold FitsS; omega

theorem encS_eq_packLoop (v : Int) : encS v = packLoop (encS v).length v := by
  induction v using encS_induct with
  | base v h => rw [encS_stop h]; rfl
  | step v h ih =>
    obtain ⟨k, hk⟩ := Nat.exists_eq_add_one.2 (encS_length_pos (v / 128))
    rw [encS_cont h, List.length_cons, hk, packLoop_succ_succ, ← hk, ← ih]

theorem encS_length_le_iff (k : Nat) (v : Int) : (encS v).length ≤ k + 1 ↔ FitsS k v := by
  induction v using encS_induct generalizing k with
  | base v h => rw [encS_stop h]; exact iff_of_true (Nat.le_add_left 1 k) (fitsS_of_stopS h k)
  | step v h ih =>
    rw [encS_cont h, List.length_cons, Nat.add_le_add_iff_right]
    cases k with
    | zero =>
      exact iff_of_false (Nat.not_le_of_gt (encS_length_pos _)) (mt (fitsS_zero v).1 h)
    | succ k => rw [fitsS_succ]; exact ih k

theorem decSLoop_packLoop (rest : List Nat) (k : Nat) (v acc : Int) (s : Nat) :
    decSLoop acc s (packLoop (k + 1) v ++ rest) = some (acc + v * 2 ^ s, rest) ↔ FitsS k v := by
  induction k generalizing v acc s with
  | zero =>
    rw [packLoop_one, List.singleton_append, decSLoop_last (digit_lt v), digit_cast]
    simp only [Option.some.injEq, Prod.mk.injEq, and_true, Int.add_right_inj, mul_pow2_cancel]
    rw [signedDigit_eq_iff, fitsS_zero, stopS_iff]
  | succ k ih =>
    rw [packLoop_succ_succ, List.cons_append, decSLoop_cont (digit_lt v), digit_cast,
      ← shift_step v s, ← Int.add_assoc, ih, fitsS_succ]

theorem decS_packLoop (rest : List Nat) (k : Nat) (v : Int) :
    decS (packLoop (k + 1) v ++ rest) = some (v, rest) ↔ FitsS k v := by
  have := decSLoop_packLoop rest k v 0 0
  rwa [Int.zero_add, Int.pow_zero, Int.mul_one] at this

theorem encS_fits (v : Int) : ∃ k, encS v = packLoop (k + 1) v ∧ FitsS k v := by
  obtain ⟨k, hk⟩ := Nat.exists_eq_add_one.2 (encS_length_pos v)
  exact ⟨k, hk ▸ encS_eq_packLoop v, (encS_length_le_iff k v).1 (Nat.le_of_eq hk)⟩

theorem packLoop_eq_encS_iff (k : Nat) (v : Int) : packLoop k v = encS v ↔ k = (encS v).length := by
  constructor
  · intro h; rw [← h, packLoop_length]
  · intro h; rw [h, ← encS_eq_packLoop]

theorem FitsS.natAbs_lt {k : Nat} {v : Int} (h : FitsS k v) : v.natAbs < 128 ^ (k + 1) := by
  have hc : ((128 ^ k : Nat) : Int) = 128 ^ k := Int.natCast_pow 128 k
  unfold FitsS at h
  rw [Nat.pow_succ]
  omega

theorem blockCount_le_length (v : Int) : blockCount v ≤ (encS v).length := by
  obtain ⟨k, hk⟩ := Nat.exists_eq_add_one.2 (encS_length_pos v)
  rw [hk, blockCount_le_iff]
  exact ((encS_length_le_iff k v).1 (Nat.le_of_eq hk)).natAbs_lt

theorem packInteger_eq_encS_iff_fits {v : Int} (h0 : v ≠ 0) :
    packInteger v = encS v ↔ FitsS (blockCount v - 1) v := by
  have h1 := blockCount_pos h0
  have h2 := blockCount_le_length v
  rw [packInteger_of_ne h0, packLoop_eq_encS_iff, ← encS_length_le_iff]
  omega

/-- For negative `v` the magnitude that has to fit is `|v| - 1` (Python's `~v`). -/
theorem fitsS_iff_bitLength (k : Nat) (v : Int) :
    FitsS k v ↔ bitLength (if v < 0 then v.natAbs - 1 else v.natAbs) ≤ 7 * k + 6 := by
  have hc : ((128 ^ k : Nat) : Int) = 128 ^ k := Int.natCast_pow 128 k
  rw [bitLength_le_iff, show 2 ^ (7 * k + 6) = 128 ^ k * 64 by rw [Nat.pow_add, Nat.pow_mul]]
  unfold FitsS
  split <;> omega

end Nsl.Leb
