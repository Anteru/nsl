import Nsl.Proofs.IRTypeOps
/-!
# IR typing: `binExec`, `castExec`, indexing, `shuffleExec`, `constructExec` on typed values
-/
namespace Nsl
namespace IRType
open VM

theorem scIsInt_sc (s : Sc) : scIsInt (.sc s) = scInt s := by cases s <;> rfl
theorem scIsInt_vec (s : Sc) (n : Nat) : scIsInt (.vec s n) = scInt s := by cases s <;> rfl
theorem scIsInt_mat (s : Sc) (r c : Nat) : scIsInt (.mat s r c) = scInt s := by cases s <;> rfl

theorem ebind_ok {α β : Type} (a : α) (k : α → Except Err β) : Except.bind (Except.ok a) k = k a := rfl
theorem ebind_err {α β : Type} (e : Err) (k : α → Except Err β) : Except.bind (Except.error e) k = .error e := rfl

theorem vec_sound {s : Sc} {n : Nat} {E : Err → Prop} {x : Except Err (List Val)}
    (h : Sound (fun zs => zs.length = n ∧ ∀ z ∈ zs, scOK s z = true) E x) :
    Sound (valOK (.vec s n) · = true) E (x >>= fun zs => .ok (.list zs)) :=
  h.bind fun zs h => vec_iff.2 ⟨zs, rfl, h⟩

theorem mat_sound {s : Sc} {r c : Nat} {E : Err → Prop} {x : Except Err (List Val)}
    (h : Sound (fun zs => zs.length = r ∧ ∀ z ∈ zs, valOK (.vec s c) z = true) E x) :
    Sound (valOK (.mat s r c) · = true) E (x >>= fun zs => .ok (.list zs)) :=
  h.bind fun zs h => mat_iff.2 ⟨zs, rfl, h⟩

theorem binExec_sound {op : BinOp} {ty ta tb : ITy} {x y : Val} (hk : binTyOK op ty ta tb = true)
    (hx : valOK ta x = true) (hy : valOK tb y = true) : Sound (valOK ty · = true) noInt (binExec op ty x y) := by
  unfold binTyOK at hk
  split at hk
  · -- scalar
    rename_i o s sa sb
    rw [valOK_sc] at hx hy
    exact scalarBin_sound hx hy hk fun _ => scIsInt_sc s
  · -- vector ∘ vector
    simp only [Bool.and_eq_true, beq_iff_eq] at hk
    obtain ⟨⟨rfl, rfl⟩, hk⟩ := hk
    obtain ⟨xs, rfl, rfl, hxs⟩ := vec_iff.1 hx
    obtain ⟨ys, rfl, hyl, hys⟩ := vec_iff.1 hy
    exact vec_sound (zipBin_sound hk (fun _ => scIsInt_vec _ _) xs ys hxs hys hyl.symm)
  · -- vector * scalar
    simp only [Bool.and_eq_true, beq_iff_eq] at hk
    obtain ⟨rfl, hk⟩ := hk
    obtain ⟨xs, rfl, rfl, hxs⟩ := vec_iff.1 hx
    rw [valOK_sc] at hy
    exact vec_sound (mapBinR_sound hk nofun hy xs hxs)
  · -- vector / scalar
    rename_i s _ sa _ sb
    rw [beq_iff_eq] at hk
    subst hk
    obtain ⟨xs, rfl, rfl, hxs⟩ := vec_iff.1 hx
    rw [valOK_sc] at hy
    exact vec_sound (mapBinR_sound (arithOK_div s sa sb) (fun _ => scIsInt_vec _ _) hy xs hxs)
  · -- matrix * matrix
    simp only [Bool.and_eq_true, beq_iff_eq] at hk
    obtain ⟨⟨rfl, rfl⟩, hk⟩ := hk
    obtain ⟨m0, rfl, rfl, h0⟩ := mat_iff.1 hx
    obtain ⟨m1, rfl, _, h1⟩ := mat_iff.1 hy
    exact mat_sound (matMulGo_sound hk h1 m0 h0)
  · -- matrix * vector
    simp only [Bool.and_eq_true, beq_iff_eq] at hk
    obtain ⟨rfl, hk⟩ := hk
    obtain ⟨m, rfl, rfl, hm⟩ := mat_iff.1 hx
    obtain ⟨v, rfl, _, hv⟩ := vec_iff.1 hy
    exact vec_sound (matMulVec_sound hk hv m hm)
  · cases hk

/-- Only the floor of a float can fail, and `castKindOK` with `strict` lets no float reach an integer kind. -/
theorem castScalar_sound {strict : Bool} {s sa : Sc} {v : Val} (hk : castKindOK strict s sa = true)
    (hv : scOK sa v = true) : Sound (scOK s · = true) (okErr strict) (castScalar s v) := by
  refine (castScalar_spec s v).mono (fun _ hz => scOK_iff.2 hz) fun e he => ?_
  obtain ⟨hs, f, rfl, hf⟩ := he (scOK_isNum hv)
  have hsa : scInt sa = false := by
    rcases scOK_iff.1 hv with ⟨_, h⟩ | ⟨rfl, _⟩
    · cases h
    · rfl
  have hst : strict = false := by
    cases strict with
    | false => rfl
    | true =>
      cases s with
      | float => exact absurd rfl hs
      | _ => rw [castKindOK, hsa] at hk; cases hk
  rcases floorToInt_err hf with ⟨rfl, _⟩ | rfl
  · intro w hw; cases hw; exact ⟨hst, rfl⟩
  · exact (noInt_unsupported _).ok

theorem castList_sound {strict : Bool} {s sa : Sc} (hk : castKindOK strict s sa = true) (xs : List Val)
    (hx : ∀ x ∈ xs, scOK sa x = true) :
    Sound (fun zs => zs.length = xs.length ∧ ∀ z ∈ zs, scOK s z = true) (okErr strict) (castList s xs) := by
  induction xs with
  | nil => exact ⟨rfl, nofun⟩
  | cons x xs ih =>
    have ⟨hx0, hxs⟩ := List.forall_mem_cons.1 hx
    exact (castScalar_sound hk hx0).bind fun _ hz => (ih hxs).bind fun _ hzs => comps_cons hz hzs

theorem castRows_sound {strict : Bool} {s sa : Sc} {c : Nat} (hk : castKindOK strict s sa = true)
    (rows : List Val) (hr : ∀ r ∈ rows, valOK (.vec sa c) r = true) :
    Sound (fun zs => zs.length = rows.length ∧ ∀ z ∈ zs, valOK (.vec s c) z = true) (okErr strict)
      (castRows s rows) := by
  induction rows with
  | nil => exact ⟨rfl, nofun⟩
  | cons r rs ih =>
    have ⟨hr0, hrs⟩ := List.forall_mem_cons.1 hr
    obtain ⟨row, rfl, hl, hrow⟩ := vec_iff.1 hr0
    exact (castList_sound hk row hrow).bind fun z hz =>
      (ih hrs).bind fun _ hzs => comps_cons (vec_iff.2 ⟨z, rfl, hz.1.trans hl, hz.2⟩) hzs

theorem castExec_sound {strict : Bool} {ty ta : ITy} {x : Val} (hk : castTyOK strict ty ta = true)
    (hx : valOK ta x = true) : Sound (valOK ty · = true) (okErr strict) (castExec ty x) := by
  unfold castTyOK at hk
  split at hk
  · rw [valOK_sc] at hx
    exact (castScalar_sound hk hx).mono (fun z h => (valOK_sc _ z).trans h) fun _ h => h
  · simp only [Bool.and_eq_true, beq_iff_eq] at hk
    obtain ⟨rfl, hk⟩ := hk
    obtain ⟨xs, rfl, rfl, hxs⟩ := vec_iff.1 hx
    exact vec_sound (castList_sound hk xs hxs)
  · simp only [Bool.and_eq_true, beq_iff_eq] at hk
    obtain ⟨⟨rfl, rfl⟩, hk⟩ := hk
    obtain ⟨m, rfl, rfl, hm⟩ := mat_iff.1 hx
    exact mat_sound (castRows_sound hk m hm)
  · cases hk

theorem normIndex_lt {len : Nat} {i : Int} {k : Nat} (h : normIndex len i = some k) : k < len := by
  unfold normIndex at h
  split at h
  · split at h
    · rename_i hlt; cases h; exact hlt
    · cases h
  · split at h
    · cases h; omega
    · cases h

theorem indexOf_list (vs : List Val) (n : Int) : Sound (· < vs.length) noInt (indexOf (.list vs) (.int n)) := by
  simp only [indexOf]
  cases h : normIndex vs.length n with
  | none => exact noInt_indexOOB
  | some k => exact normIndex_lt h

theorem list_get {q : Val → Prop} {vs : List Val} (hvs : ∀ x ∈ vs, q x) (n : Int) :
    Sound q noInt (indexOf (.list vs) (.int n) >>= fun k => getKey (.list vs) (.idx k)) :=
  (indexOf_list vs n).bind fun k hk => by
    rw [getKey_idx_iff.2 (List.getElem?_eq_getElem hk)]
    exact hvs _ (List.getElem_mem hk)

theorem list_set {q : Val → Prop} {vs : List Val} {x : Val} (hvs : ∀ y ∈ vs, q y) (hx : q x) (n : Int) :
    Sound (fun a => ∃ vs', a = .list vs' ∧ vs'.length = vs.length ∧ ∀ y ∈ vs', q y) noInt
      (indexOf (.list vs) (.int n) >>= fun k => setKey (.list vs) (.idx k) x) :=
  (indexOf_list vs n).bind fun k hk => by
    rw [setKey_idx_iff.2 ⟨hk, rfl⟩]
    exact ⟨_, rfl, List.length_set, fun y hy => (List.mem_or_eq_of_mem_set hy).elim (hvs y) (· ▸ hx)⟩

theorem elem_get {ty tv : ITy} {a : Val} {n : Int} (hk : getTyOK ty tv = true) (ha : valOK tv a = true) :
    Sound (valOK ty · = true) noInt (indexOf a (.int n) >>= fun k => getKey a (.idx k)) := by
  unfold getTyOK at hk
  split at hk
  · obtain ⟨vs, rfl, _, hvs⟩ := vec_iff.1 ha
    exact (list_get hvs n).mono (fun x hx => by rw [valOK_sc]; exact scOK_le hk hx) fun _ h => h
  · simp only [Bool.and_eq_true, beq_iff_eq] at hk
    obtain ⟨hle, rfl⟩ := hk
    obtain ⟨vs, rfl, _, hvs⟩ := mat_iff.1 ha
    exact (list_get hvs n).mono (fun x hx => vec_le hle hx) fun _ h => h
  · cases hk

theorem elem_set {tv ts : ITy} {a x : Val} {n : Int} (hk : setTyOK tv ts = true) (ha : valOK tv a = true)
    (hx : valOK ts x = true) : Sound (valOK tv · = true) noInt (indexOf a (.int n) >>= fun k => setKey a (.idx k) x) := by
  unfold setTyOK at hk
  split at hk
  · obtain ⟨vs, rfl, hl, hvs⟩ := vec_iff.1 ha
    rw [valOK_sc] at hx
    exact (list_set hvs (scOK_le hk hx) n).mono (fun _ ⟨vs', e, hl', h⟩ => vec_iff.2 ⟨vs', e, hl'.trans hl, h⟩)
      fun _ h => h
  · simp only [Bool.and_eq_true, beq_iff_eq] at hk
    obtain ⟨hle, rfl⟩ := hk
    obtain ⟨vs, rfl, hl, hvs⟩ := mat_iff.1 ha
    exact (list_set hvs (vec_le hle hx) n).mono (fun _ ⟨vs', e, hl', h⟩ => mat_iff.2 ⟨vs', e, hl'.trans hl, h⟩)
      fun _ h => h
  · cases hk

theorem widthOf_flat {t : ITy} {s : Sc} {n : Nat} {v : Val} (hw : widthOf t = some (s, n)) (hv : valOK t v = true) :
    (flatOf v).length = n ∧ ∀ x ∈ flatOf v, scOK s x = true := by
  cases t with
  | sc s' =>
    cases hw
    rw [valOK_sc] at hv
    have hflat : flatOf v = [v] := by rcases scOK_cases hv with ⟨i, rfl⟩ | ⟨f, rfl⟩ <;> rfl
    rw [hflat]
    exact ⟨rfl, List.forall_mem_cons.2 ⟨hv, nofun⟩⟩
  | vec s' m =>
    cases hw
    obtain ⟨vs, rfl, hl, hvs⟩ := vec_iff.1 hv
    exact ⟨hl, hvs⟩
  | _ => cases hw

theorem pick_ok (combined : List Val) (idx : List Nat) (h : ∀ i ∈ idx, i < combined.length) :
    ∃ r, shuffleExec.pick combined idx = .ok r ∧ r.length = idx.length ∧ ∀ x ∈ r, x ∈ combined := by
  refine ⟨_, pick_spec combined idx h, List.length_map _, fun x hx => ?_⟩
  obtain ⟨i, hi, rfl⟩ := List.mem_map.1 hx
  rw [nth_lt (h i hi)]
  exact List.getElem_mem _

theorem shuffleExec_sound {ty ta tb : ITy} {a b : Val} {idx : List Nat} (hk : shuffleTyOK ty ta tb idx = true)
    (ha : valOK ta a = true) (hb : valOK tb b = true) : ∃ z, shuffleExec ty a b idx = .ok z ∧ valOK ty z = true := by
  unfold shuffleTyOK at hk
  split at hk
  · rename_i sa na sb nb hwa hwb
    simp only [Bool.and_eq_true, List.all_eq_true, decide_eq_true_eq] at hk
    obtain ⟨hidx, hty⟩ := hk
    obtain ⟨hla, hxa⟩ := widthOf_flat hwa ha
    obtain ⟨hlb, hxb⟩ := widthOf_flat hwb hb
    obtain ⟨r, hr, hrl, hrm⟩ := pick_ok (flatOf a ++ flatOf b) idx
      (fun i hi => by rw [List.length_append, hla, hlb]; exact hidx i hi)
    -- every picked component is one of `a` or of `b`
    have hcomp : ∀ {s : Sc}, scLe sa s = true → scLe sb s = true → ∀ x ∈ r, scOK s x = true := fun hsa hsb x hx =>
      (List.mem_append.1 (hrm x hx)).elim (fun h => scOK_le hsa (hxa x h)) (fun h => scOK_le hsb (hxb x h))
    rw [shuffleExec_eq, hr]
    split at hty
    · simp only [Bool.and_eq_true, beq_iff_eq] at hty
      obtain ⟨⟨hl1, hsa⟩, hsb⟩ := hty
      obtain ⟨x, rfl⟩ := List.length_eq_one_iff.1 (hrl.trans hl1)
      exact ⟨x, rfl, by rw [valOK_sc]; exact hcomp hsa hsb x List.mem_cons_self⟩
    · simp only [Bool.and_eq_true, beq_iff_eq] at hty
      obtain ⟨⟨hl1, hsa⟩, hsb⟩ := hty
      exact ⟨.list r, rfl, vec_iff.2 ⟨r, rfl, hrl.trans hl1, hcomp hsa hsb⟩⟩
    · cases hty
  · cases hk

theorem flat_ok {s : Sc} {ts : List ITy} {vs : List Val} {n : Nat} (hw : consWidth s ts = some n)
    (hv : valsOK ts vs = true) : (constructExec.flat vs).length = n ∧ ∀ x ∈ constructExec.flat vs, scOK s x = true := by
  induction ts generalizing vs n with
  | nil =>
    cases hw; cases valsOK_nil hv
    exact ⟨rfl, nofun⟩
  | cons t ts ih =>
    obtain ⟨v, vs, rfl, hv0, hvs⟩ := valsOK_cons hv
    rw [consWidth] at hw
    split at hw
    · rename_i sa k m hwt hrest
      split at hw
      · rename_i hle
        cases hw
        obtain ⟨hl, hx⟩ := widthOf_flat hwt hv0
        obtain ⟨hl2, hx2⟩ := ih hrest hvs
        rw [flat_cons]
        exact ⟨by rw [List.length_append, hl, hl2], fun x hxm =>
          (List.mem_append.1 hxm).elim (fun h => scOK_le hle (hx x h)) (hx2 x)⟩
      · cases hw
    · cases hw

theorem rows_ok {s : Sc} {c : Nat} {ts : List ITy} {vs : List Val} (hr : rowsFit s c ts = true)
    (hv : valsOK ts vs = true) : vs.length = ts.length ∧ ∀ r ∈ vs, valOK (.vec s c) r = true := by
  induction ts generalizing vs with
  | nil => cases valsOK_nil hv; exact ⟨rfl, nofun⟩
  | cons t ts ih =>
    obtain ⟨v, vs, rfl, hv0, hvs⟩ := valsOK_cons hv
    simp only [rowsFit, Bool.and_eq_true] at hr
    obtain ⟨hl, hrest⟩ := ih hr.2 hvs
    refine ⟨by rw [List.length_cons, hl, List.length_cons], List.forall_mem_cons.2 ⟨?_, hrest⟩⟩
    have h1 := hr.1
    split at h1
    · simp only [Bool.and_eq_true, beq_iff_eq] at h1
      obtain ⟨rfl, hle⟩ := h1
      exact vec_le hle hv0
    · cases h1

theorem constructExec_sound {ty : ITy} {ts : List ITy} {vs : List Val} (hk : constructTyOK ty ts = true)
    (hv : valsOK ts vs = true) : ∃ z, constructExec ty vs = .ok z ∧ valOK ty z = true := by
  unfold constructTyOK at hk
  split at hk
  · rename_i s n
    rw [beq_iff_eq] at hk
    exact ⟨_, rfl, vec_iff.2 ⟨_, rfl, flat_ok hk hv⟩⟩
  · rename_i s r c
    simp only [Bool.and_eq_true, beq_iff_eq] at hk
    obtain ⟨hl, hrows⟩ := rows_ok hk.2 hv
    refine ⟨.list vs, ?_, mat_iff.2 ⟨vs, rfl, hl.trans hk.1, hrows⟩⟩
    rw [constructExec, if_pos]
    rw [List.all_eq_true]
    intro r hr
    obtain ⟨xs, rfl, _⟩ := vec_iff.1 (hrows r hr)
    rfl
  · rename_i s
    split at hk
    · obtain ⟨v, vs, rfl, hv0, hvs⟩ := valsOK_cons hv
      cases valsOK_nil hvs
      rw [valOK_sc] at hv0
      exact ⟨v, rfl, by rw [valOK_sc]; exact scOK_le hk hv0⟩
    · cases hk
  · cases hk

end IRType
end Nsl
