import Nsl.Model.Static

/-!
C13: the three passes unrolled one index at a time (`checkChain_cons`, `stepOK`), `indexResult`
shape by shape; `ValidateSwizzleMask` as one Boolean formula.
-/

namespace Nsl.Static

open Spec

/-- The part of the three passes that concerns one step `parent[i]`. -/
def stepOK (parent : Ty) (i : Idx) : Bool :=
  isScalar (idxType i)
    && !(idxType i != .scalar .int && idxType i != .scalar .uint)
    && boundsStep parent i

theorem checkChain_nil (t : Ty) : checkChain t [] = true := by
  simp [checkChain, computeTypes, accessTypePass, boundsPass]

theorem boundsPass_cons (p : Ty) (ps : List Ty) (i : Idx) (is : List Idx) :
    boundsPass (p :: ps) (i :: is) = (boundsStep p i && boundsPass ps is) := rfl

theorem checkChain_cons (t : Ty) (i : Idx) (is : List Idx) :
    checkChain t (i :: is) =
      (stepOK t i && match indexResult t with
        | none => false
        | some t' => checkChain t' is) := by
  cases hs : isScalar (idxType i) with
  | false => simp [checkChain, stepOK, computeTypes, hs]
  | true =>
    cases hr : indexResult t with
    | none => simp [checkChain, computeTypes, hs, hr]
    | some t' =>
      cases hc : computeTypes t' is with
      | none => simp [checkChain, computeTypes, hs, hr, hc]
      | some ps =>
        -- both sides are the same four conjuncts, associated differently
        simp only [checkChain, stepOK, computeTypes, hs, hr, hc, accessTypePass, List.all_cons,
          boundsPass_cons, Bool.not_true, Bool.false_eq_true, if_false, Bool.true_and]
        ac_rfl

theorem indexResult_scalar (c : Comp) : indexResult (.scalar c) = none := rfl
theorem indexResult_vec (c : Comp) (n : Nat) : indexResult (.vec c n) = some (.scalar c) := rfl
theorem indexResult_mat (c : Comp) (r k : Nat) : indexResult (.mat c r k) = some (.vec c k) := rfl
theorem indexResult_arr_one (e : Ty) (d : Nat) : indexResult (.arr e [d]) = some e := by
  cases e <;> rfl
theorem indexResult_arr_more (e : Ty) (d d' : Nat) (ds : List Nat) :
    indexResult (.arr e (d :: d' :: ds)) = some (.arr e (d' :: ds)) := by
  cases e <;> simp [indexResult, size, componentType]

theorem wf_arr_elem {e : Ty} {ds : List Nat} (h : WF (.arr e ds)) : WF e := by
  have h := (Bool.and_eq_true_iff.1 (Bool.and_eq_true_iff.1 h).1).1
  cases e with
  | arr _ _ => cases h
  | _ => exact h

theorem wf_arr_tail {e : Ty} {d d' : Nat} {ds : List Nat} (h : WF (.arr e (d :: d' :: ds))) :
    WF (.arr e (d' :: ds)) := by
  simp only [WF, wf, List.all_cons, Bool.and_eq_true] at h ⊢
  exact ⟨⟨h.1.1, rfl⟩, h.2.2⟩

theorem indexResult_spec : ∀ (t : Ty), WF t →
    (indexResult t = none ∧ dimsOf t = []) ∨
    ∃ d rest t', size t = some (d :: rest) ∧ indexResult t = some t' ∧ WF t' ∧
      dimsOf t = d :: dimsOf t'
  | .scalar _, _ => .inl ⟨rfl, rfl⟩
  | .vec c n, _ => .inr ⟨n, [], .scalar c, rfl, rfl, rfl, rfl⟩
  | .mat c r k, h => .inr ⟨r, [k], .vec c k, rfl, rfl, (Bool.and_eq_true_iff.1 h).2, rfl⟩
  | .arr _ [], h => nomatch (Bool.and_eq_true_iff.1 (Bool.and_eq_true_iff.1 h).1).2
  | .arr e [d], h => .inr ⟨d, [], e, rfl, indexResult_arr_one e d, wf_arr_elem h, rfl⟩
  | .arr e (d :: d' :: ds), h =>
    .inr ⟨d, d' :: ds, .arr e (d' :: ds), rfl, indexResult_arr_more e d d' ds, wf_arr_tail h, rfl⟩

theorem AllOK_nil (dims : List Nat) : AllOK [] dims := by
  intro j hi; simp at hi

theorem AllOK_cons (i : Idx) (is : List Idx) (d : Nat) (ds : List Nat) :
    AllOK (i :: is) (d :: ds) ↔ IdxOK i d ∧ AllOK is ds := by
  constructor
  · intro h
    refine ⟨h 0 (by simp) (by simp), ?_⟩
    intro j hi hd
    have := h (j + 1) (by simpa using hi) (by simpa using hd)
    simpa using this
  · rintro ⟨h0, hr⟩ j hi hd
    cases j with
    | zero => simpa using h0
    | succ j =>
      have := hr j (by simpa using hi) (by simpa using hd)
      simpa using this

theorem stepOK_iff {t : Ty} {d : Nat} {rest : List Nat} (hs : size t = some (d :: rest)) (i : Idx) :
    stepOK t i = true ↔ IdxOK i d := by
  cases i with
  | lit v =>
    -- a literal has type `int`; what is left is the bounds test against `d`
    simp only [stepOK, idxType, isScalar, boundsStep, hs, IdxOK]
    simp
  | dyn ty =>
    -- no bounds test; scalar and (`int` or `uint`), shape by shape
    simp only [stepOK, idxType, boundsStep, IdxOK]
    cases ty <;> simp [isScalar]

/-- Needs no well-formedness. -/
theorem checkChain_step {t t' : Ty} {d : Nat} {rest : List Nat} (hs : size t = some (d :: rest))
    (hr : indexResult t = some t') (i : Idx) (is : List Idx) :
    checkChain t (i :: is) = true ↔ IdxOK i d ∧ checkChain t' is = true := by
  rw [checkChain_cons, hr, Bool.and_eq_true, stepOK_iff hs]

theorem checkChain_one {t : Ty} {d : Nat} {rest : List Nat} (hs : size t = some (d :: rest))
    (hr : (indexResult t).isSome = true) (i : Idx) : checkChain t [i] = true ↔ IdxOK i d := by
  obtain ⟨t', hr⟩ := Option.isSome_iff_exists.1 hr
  rw [checkChain_step hs hr, checkChain_nil, and_iff_left rfl]

theorem indexResult_arr_isSome (e : Ty) (d : Nat) (ds : List Nat) :
    (indexResult (.arr e (d :: ds))).isSome = true := by
  cases ds with
  | nil => rw [indexResult_arr_one]; rfl
  | cons d' ds => rw [indexResult_arr_more]; rfl

theorem checkChain_bad_step (base : Ty) (pre : List Idx) (i : Idx) (post : List Idx)
    (h : ∀ p, stepOK p i = false) : checkChain base (pre ++ i :: post) = false := by
  induction pre generalizing base with
  | nil => simp [checkChain_cons, h]
  | cons a pre ih =>
    rw [List.cons_append, checkChain_cons]
    cases indexResult base with
    | none => simp
    | some t' => simp [ih t']

theorem stepOK_neg (p : Ty) (v : Int) (hv : v < 0) : stepOK p (.lit v) = false := by
  -- either the parent has no first dimension, or `v < 0` fails the bounds test
  simp only [stepOK, boundsStep]
  split <;> simp [hv]

theorem stepOK_nonint (p : Ty) (t : Ty) (h1 : t ≠ .scalar .int) (h2 : t ≠ .scalar .uint) :
    stepOK p (.dyn t) = false := by
  simp [stepOK, idxType, h1, h2]

theorem mem_xyzw (c : Char) : c ∈ xyzw ↔ c = 'x' ∨ c = 'y' ∨ c = 'z' ∨ c = 'w' := by
  simp [xyzw]

theorem mem_rgba (c : Char) : c ∈ rgba ↔ c = 'r' ∨ c = 'g' ∨ c = 'b' ∨ c = 'a' := by
  simp [rgba]

theorem mem_letters (c : Char) : c ∈ letters ↔ c ∈ xyzw ∨ c ∈ rgba := by
  simp [letters]

theorem xyzw_rgba_disjoint (c : Char) : c ∈ xyzw → c ∈ rgba → False := by
  rw [mem_xyzw, mem_rgba]
  rintro (h | h | h | h) <;> subst h <;> decide

theorem componentIndex_xyzw (c : Char) (h : c ∈ xyzw) : componentIndex c = some (xyzw.idxOf c) := by
  rw [mem_xyzw] at h
  rcases h with h | h | h | h <;> subst h <;> decide

theorem componentIndex_rgba (c : Char) (h : c ∈ rgba) : componentIndex c = some (rgba.idxOf c) := by
  rw [mem_rgba] at h
  rcases h with h | h | h | h <;> subst h <;> decide

theorem containsAnyOf_iff (xs what : List Char) :
    containsAnyOf xs what = true ↔ ∃ c ∈ xs, c ∈ what := by
  simp [containsAnyOf]

theorem indexTooBig_eq_false (n : Nat) (m : Char) :
    indexTooBig n m = false ↔ ∃ i, componentIndex m = some i ∧ i < n := by
  unfold indexTooBig
  cases componentIndex m <;> simp

/-- The two "mixed" tests are the same test. -/
theorem validateMask_eq (mask : List Char) (n : Nat) :
    validateMask mask n =
      (!(mask.any fun m => !letters.contains m) && !mask.any (indexTooBig n)
        && !(containsAnyOf mask xyzw && containsAnyOf mask rgba)) := by
  unfold validateMask
  cases mask.any fun m => !letters.contains m <;> cases mask.any (indexTooBig n) <;>
    cases containsAnyOf mask xyzw <;> cases containsAnyOf mask rgba <;> rfl

theorem validateMask_iff (mask : List Char) (n : Nat) :
    validateMask mask n = true ↔
      (∀ c ∈ mask, c ∈ letters) ∧
      (∀ c ∈ mask, ∃ i, componentIndex c = some i ∧ i < n) ∧
      ¬ ((∃ c ∈ mask, c ∈ xyzw) ∧ (∃ c ∈ mask, c ∈ rgba)) := by
  rw [validateMask_eq, Bool.and_eq_true, Bool.and_eq_true, and_assoc]
  refine and_congr ?_ (and_congr ?_ ?_)
  · simp
  · simp only [Bool.not_eq_true', List.any_eq_false, Bool.not_eq_true, indexTooBig_eq_false]
  · rw [Bool.not_eq_true', ← Bool.not_eq_true, Bool.and_eq_true, containsAnyOf_iff, containsAnyOf_iff]

end Nsl.Static
