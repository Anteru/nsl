import Nsl.Proofs.LowerShape
import Nsl.Proofs.SimBase
import Nsl.Proofs.WFBlock
import Nsl.Model.StorageCore
/-!
# Lowered functions pass the checks of `Opt.wfChecks`

`blockLocal` and `defsDistinct` are in `LowerLocal`; here are `labelsDistinct`, `targetsOK`, `callsOK`.
Expression code has neither markers nor branches, and every `call` instruction comes from a `call` node with as many
operands as the node has arguments.  In statement code every branch target is a marker of the SAME fragment or — inside
a loop body only — the `break`/`continue` label handed down by the enclosing loop, which the loop places; at function
level only the first is possible.  The hypotheses are that `break`/`continue` occur inside loops (`flowS`) and that the
calls resolve (`callsS`).
-/
namespace Nsl
namespace Lower
open Core Opt WF

/-- What `callOK` asks of an instruction, relative to an arity table. -/
def callP (sig : String → Nat → Bool) : Instr → Bool
  | .call _ _ f as => sig f as.length
  | _ => true

def eOK (sig : String → Nat → Bool) : Instr → Bool
  | .label _ => false
  | .br _ => false
  | .brc _ _ _ => false
  | .call _ _ f as => sig f as.length
  | _ => true

def AllE (sig : String → Nat → Bool) (c : List Instr) : Prop := ∀ ins ∈ c, eOK sig ins = true

theorem AllE.iff_all {sig : String → Nat → Bool} {c : List Instr} : AllE sig c ↔ All (eOK sig · = true) c := Iff.rfl

section
variable {sig : String → Nat → Bool} {c : List Instr} {x : Instr}

theorem eOK_targets (h : eOK sig x = true) : targetsOf x = [] := by
  cases x with
  | br | brc => cases h
  | _ => rfl

theorem eOK_callP (h : eOK sig x = true) : callP sig x = true := by
  cases x with
  | call => exact h
  | _ => rfl

end

theorem allE_rules (sig : String → Nat → Bool) : Rules
    (fun e _ c _ _ => callsE sig e = true → All (eOK sig · = true) c)
    (fun as _ c os _ => callsArgs sig as = true → All (eOK sig · = true) c ∧ os.length = argCount as)
    (fun e _ _ c _ => callsE sig e = true → All (eOK sig · = true) c) where
  litI _ _ _ := .nil
  litF _ _ _ := .nil
  var _ _ _ _ _ := .one rfl
  bin il ir ht hok := by
    simp only [callsE, Bool.and_eq_true] at hok
    exact ((il hok.1).append (ir hok.2)).append 
      (.of_binTail (fun _ _ _ _ _ => rfl) (fun _ _ _ _ => rfl) (fun _ _ _ => rfl) ht)
  cast ie hok := (ie hok).snoc rfl
  assign ie is hok := by
    simp only [callsE, Bool.and_eq_true] at hok
    exact (ie hok.2).append (is hok.1)
  affix ie is hok := ((ie hok).snoc rfl).append (is hok)
  call ia hok := by
    simp only [callsE, Bool.and_eq_true] at hok
    obtain ⟨ha, hlen⟩ := ia hok.2
    exact ha.snoc (by rw [eOK, hlen]; exact hok.1)
  index ib ii hok := by
    simp only [callsE, Bool.and_eq_true] at hok
    exact ((ib hok.1).append (ii hok.2)).snoc (forall_idxLoad (P := (eOK sig · = true)) rfl rfl rfl _)
  member ib hok := (ib hok).snoc rfl
  swizzle ib hok := (ib hok).snoc rfl
  construct ia hok := (ia hok).1.snoc rfl
  nil _ _ := ⟨.nil, rfl⟩
  cons ie ir hok := by
    simp only [callsArgs, Bool.and_eq_true] at hok
    obtain ⟨hr, hlen⟩ := ir hok.2
    exact ⟨(ie hok.1).append hr, by rw [List.length_cons, hlen, argCount]⟩
  storeVar _ _ _ _ _ _ := .one rfl
  storeArr ib ii hok := by
    simp only [callsE, Bool.and_eq_true] at hok
    exact ((ib hok.1).append (ii hok.2)).snoc rfl
  storeVec ib ii is hok := by
    simp only [callsE, Bool.and_eq_true] at hok
    exact (((ib hok.1).append (ii hok.2)).snoc rfl).append (is hok.1)
  storeMat ib ii is hok := by
    simp only [callsE, Bool.and_eq_true] at hok
    exact (((ib hok.1).append (ii hok.2)).snoc rfl).append (is hok.1)
  storeMem ib hok := (ib hok).snoc rfl
  storeSwz ib is hok := ((ib hok).snoc rfl).append (is hok)
  storeOther _ ie := ie

theorem lowerArgs_allE (sig : String → Nat → Bool) : ∀ (as : Args), callsArgs sig as = true → ∀ (k : Nat)
    (c : List Instr) (os : List Opd) (k' : Nat), lowerArgs as k = (c, os, k') →
    AllE sig c ∧ os.length = argCount as :=
  fun _ hok _ _ _ _ h => (allE_rules sig).ofArgs h hok

theorem lowerStore_allE (sig : String → Nat → Bool) : ∀ (e : Expr), callsE sig e = true → ∀ (v : Opd) (k : Nat)
    (c : List Instr) (k' : Nat), lowerStore e v k = (c, k') → AllE sig c :=
  fun _ hok _ _ _ _ h => (allE_rules sig).ofStore h hok

theorem lowerOptE_allE (sig : String → Nat → Bool) {oe : Option Expr} (hok : callsOptE sig oe = true) {k : Nat}
    {c : List Instr} {o : Option Opd} {k' : Nat} (h : lowerOptE oe k = (c, o, k')) : All (eOK sig · = true) c :=
  .of_lowerOptE h fun e _ he hc => by subst he; exact (allE_rules sig).ofE hc hok

/-- What `ValidateFlowStatements` guarantees (property C11), on the typed core. -/
def flowS (inLoop : Bool) : Stmt → Bool
  | .skip => true
  | .decl _ _ _ => true
  | .expr _ => true
  | .seq a b => flowS inLoop a && flowS inLoop b
  | .ite1 _ t => flowS inLoop t
  | .ite2 _ t e => flowS inLoop t && flowS inLoop e
  | .whileL _ body => flowS true body
  | .doL body _ => flowS true body
  | .forL init _ _ body => flowS inLoop init && flowS true body
  | .brk => inLoop
  | .cont => inLoop
  | .ret _ => true

theorem okSS_flowS (Γ : Env) : ∀ (s : Stmt) (il : Bool), okSS Γ il s = true → flowS il s = true
  | .skip, _, _ => rfl
  | .decl _ _ _, _, _ => rfl
  | .expr _, _, _ => rfl
  | .seq a b, il, h => by
    simp only [okSS, flowS, Bool.and_eq_true] at h ⊢
    exact ⟨okSS_flowS Γ a il h.1, okSS_flowS Γ b il h.2⟩
  | .ite1 _ t, il, h => by
    simp only [okSS, Bool.and_eq_true] at h
    exact okSS_flowS Γ t il h.2
  | .ite2 _ t e, il, h => by
    simp only [okSS, flowS, Bool.and_eq_true] at h ⊢
    exact ⟨okSS_flowS Γ t il h.1.2, okSS_flowS Γ e il h.2⟩
  | .whileL _ b, _, h => by
    simp only [okSS, Bool.and_eq_true] at h
    exact okSS_flowS Γ b true h.2
  | .doL b _, _, h => by
    simp only [okSS, Bool.and_eq_true] at h
    exact okSS_flowS Γ b true h.1
  | .forL i _ _ b, il, h => by
    simp only [okSS, flowS, Bool.and_eq_true] at h ⊢
    exact ⟨okSS_flowS Γ i il h.1.1.1, okSS_flowS Γ b true h.2⟩
  | .brk, _, h => h
  | .cont, _, h => h
  | .ret _, _, _ => rfl

/-- What `callsOK` and `targetsOK` ask of one instruction, relative to an arity table and a label set. -/
def sOK (sig : String → Nat → Bool) (L : List Nat) (i : Instr) : Prop :=
  callP sig i = true ∧ ∀ l ∈ targetsOf i, l ∈ L

section
variable {sig : String → Nat → Bool} {L : List Nat}

theorem sOK_of_eOK {i : Instr} (h : eOK sig i = true) : sOK sig L i :=
  ⟨eOK_callP h, by rw [eOK_targets h]; exact fun _ h => nomatch h⟩

theorem sOK_label (l : Nat) : sOK sig L (.label l) := ⟨rfl, fun _ h => nomatch h⟩

theorem sOK_br {t : Nat} (ht : t ∈ L) : sOK sig L (.br t) := ⟨rfl, List.forall_mem_singleton.2 ht⟩

theorem sOK_brc (p : Opd) {t f : Nat} (ht : t ∈ L) (hf : f ∈ L) : sOK sig L (.brc p t f) :=
  ⟨rfl, List.forall_mem_cons.2 ⟨ht, List.forall_mem_singleton.2 hf⟩⟩

theorem sOK_forBranch (v : Option Opd) {a b : Nat} (ha : a ∈ L) (hb : b ∈ L) : sOK sig L (forBranch v a b) :=
  forall_forBranch (sOK_br ha) (fun p => sOK_brc p ha hb) v

theorem All.sOK {c : List Instr} (h : All (eOK sig · = true) c) : All (sOK sig L) c := h.imp fun _ => sOK_of_eOK

end

/-- `L` holds the markers of the code and — inside a loop body — the `break`/`continue` labels of the enclosing loop.
In each case `hL` is split along the `++` of the production's code, left-nested as the code is: `h0`, `h1`, … for the
production's own markers in code order, `ht`, `he`, `hb`, `hi` for sub-statements, `-` for expression code. -/
theorem sok_srules (sig : String → Nat → Bool) : SRules
    (fun brk cont s _ c _ => ∀ il, flowS il s = true → callsS sig s = true → ∀ L, (∀ l ∈ labels c, l ∈ L) →
      (il = true → brk.getD 0 ∈ L ∧ cont.getD 0 ∈ L) → All (sOK sig L) c) where
  skip _ _ _ _ _ _ _ _ _ := .nil
  declNone _ _ _ _ _ _ _ _ _ _ _ := .one (sOK_of_eOK rfl)
  declInit _ _ _ _ := fun he _ _ hc _ _ _ =>
    ((All.one (sOK_of_eOK rfl)).append ((allE_rules sig).ofE he hc).sOK).snoc (sOK_of_eOK rfl)
  expr _ _ := fun he _ _ hc _ _ _ => ((allE_rules sig).ofE he hc).sOK
  seq ia ib il hf hc L hL hB := by
    simp only [flowS, callsS, Bool.and_eq_true] at hf hc
    simp only [labels_append, List.forall_mem_append] at hL
    exact (ia il hf.1 hc.1 L hL.1 hB).append (ib il hf.2 hc.2 L hL.2 hB)
  ite1 he it il hf hc L hL hB := by
    simp only [flowS, callsS, Bool.and_eq_true] at hf hc
    simp only [labels_append, labels_cons_brc, labels_cons_label, labels_nil, List.forall_mem_append,
      List.forall_mem_singleton] at hL
    obtain ⟨⟨⟨-, h0⟩, ht⟩, h1⟩ := hL
    exact ((((allE_rules sig).ofE he hc.1).sOK.append (.cons (sOK_brc _ h0 h1) (.one (sOK_label _)))).append
      (it il hf hc.2 L ht hB)).snoc (sOK_label _)
  ite2 hcn it ie il hf hc L hL hB := by
    simp only [flowS, callsS, Bool.and_eq_true] at hf hc
    simp only [labels_append, labels_cons_brc, labels_cons_br, labels_cons_label, labels_nil, List.forall_mem_append,
      List.forall_mem_singleton] at hL
    obtain ⟨⟨⟨⟨⟨-, h0⟩, ht⟩, h1⟩, he⟩, h2⟩ := hL
    exact ((((((allE_rules sig).ofE hcn hc.1.1).sOK.append (.cons (sOK_brc _ h0 h1) (.one (sOK_label _)))).append
      (it il hf.1 hc.1.2 L ht hB)).append (.cons (sOK_br h2) (.one (sOK_label _)))).append
      (ie il hf.2 hc.2 L he hB)).snoc (sOK_label _)
  whileL hcn ib _ hf hc L hL _ := by
    simp only [flowS, callsS, Bool.and_eq_true] at hf hc
    simp only [labels_append, labels_cons_brc, labels_cons_br, labels_cons_label, labels_nil, List.forall_mem_append,
      List.forall_mem_singleton] at hL
    obtain ⟨⟨⟨⟨h0, -⟩, h1⟩, hb⟩, h2⟩ := hL
    exact ((((All.one (sOK_label _)).append ((allE_rules sig).ofE hcn hc.1).sOK).append
      (.cons (sOK_brc _ h1 h2) (.one (sOK_label _)))).append (ib true hf hc.2 L hb fun _ => ⟨h2, h0⟩)).append
      (.cons (sOK_br h0) (.one (sOK_label _)))
  doL ib hcn _ hf hc L hL _ := by
    simp only [flowS, callsS, Bool.and_eq_true] at hf hc
    simp only [labels_append, labels_cons_brc, labels_cons_label, labels_nil, List.forall_mem_append,
      List.forall_mem_singleton] at hL
    obtain ⟨⟨⟨⟨h0, hb⟩, h1⟩, -⟩, h2⟩ := hL
    exact ((((All.one (sOK_label _)).append (ib true hf hc.1 L hb fun _ => ⟨h2, h1⟩)).snoc (sOK_label _)).append
      ((allE_rules sig).ofE hcn hc.2).sOK).append (.cons (sOK_brc _ h0 h2) (.one (sOK_label _)))
  forL ii hcn ib hn il hf hc L hL hB := by
    simp only [flowS, callsS, Bool.and_eq_true] at hf hc
    simp only [labels_append, labels_cons_forBranch, labels_cons_br, labels_cons_label, labels_nil,
      List.forall_mem_append, List.forall_mem_singleton] at hL
    obtain ⟨⟨⟨⟨⟨⟨⟨hi, h0⟩, -⟩, h1⟩, hb⟩, h2⟩, -⟩, h3⟩ := hL
    exact ((((((((ii il hf.1 hc.1.1.1 L hi hB).snoc (sOK_label _)).append (lowerOptE_allE sig hc.1.1.2 hcn).sOK).append
      (.cons (sOK_forBranch _ h1 h3) (.one (sOK_label _)))).append (ib true hf.2 hc.2 L hb fun _ => ⟨h3, h2⟩)).snoc
      (sOK_label _)).append (lowerOptE_allE sig hc.1.2 hn).sOK).append (.cons (sOK_br h0) (.one (sOK_label _))))
  brk _ _ _ := fun _ hf _ _ _ hB => .one (sOK_br (hB hf).1)
  cont _ _ _ := fun _ hf _ _ _ hB => .one (sOK_br (hB hf).2)
  retNone _ _ _ _ _ _ _ _ _ := .one (sOK_of_eOK rfl)
  retSome _ _ := fun he _ _ hc _ _ _ => ((allE_rules sig).ofE he hc).sOK.snoc (sOK_of_eOK rfl)

theorem labels_eq_wf (c : List Instr) : labels c = c.filterMap WF.labelOf := by
  rw [labels, labelOf_eq_wf]

theorem labelsDistinct_of_nodup {code : List Instr} (h : (labels code).Nodup) : labelsDistinct code = true := by
  unfold labelsDistinct
  rw [← labels_eq_wf]
  exact distinct_iff_nodup.2 h

theorem lowerFn_labelsDistinct_general (f : FnDef) : labelsDistinct (lowerFn f).code = true :=
  labelsDistinct_of_nodup (lowerFn_labels_nodup f)

theorem labelPos_isSome {code : List Instr} {l : Nat} (h : l ∈ labels code) : (labelPos code l).isSome = true := by
  obtain ⟨x, hx, hxl⟩ := List.mem_filterMap.1 h
  obtain rfl : x = .label l := by
    cases x <;> simp [labelOf] at hxl
    rw [hxl]
  obtain ⟨j, hj⟩ := List.getElem?_of_mem hx
  cases hp : labelPos code l with
  | some p => rfl
  | none => exact absurd hj (labelPos_go_none l code 0 hp j)

theorem lowerFn_sok (sig : String → Nat → Bool) (f : FnDef) (hfl : flowS false f.body = true)
    (hc : callsS sig f.body = true) : All (sOK sig (labels (lowerFn f).code)) (lowerFn f).code :=
  (sok_srules sig).ofS (c := (lowerFn f).code) rfl false hfl hc _ (fun _ h => h) (fun h => nomatch h)

theorem lowerFn_targetsOK (sig : String → Nat → Bool) (f : FnDef) (hfl : flowS false f.body = true)
    (hc : callsS sig f.body = true) : targetsOK (lowerFn f).code = true :=
  List.all_eq_true.2 fun i hi => List.all_eq_true.2 fun l hl => labelPos_isSome ((lowerFn_sok sig f hfl hc i hi).2 l hl)

mutual
  theorem callsE_top : ∀ (e : Expr), callsE (fun _ _ => true) e = true
    | .litI _ => rfl
    | .litF _ => rfl
    | .var _ _ _ => rfl
    | .bin _ _ l r => by simp only [callsE, callsE_top l, callsE_top r, Bool.and_self]
    | .cast _ e => by simp only [callsE, callsE_top e]
    | .assign l r => by simp only [callsE, callsE_top l, callsE_top r, Bool.and_self]
    | .affix _ _ x => by simp only [callsE, callsE_top x]
    | .call _ _ args => by simp only [callsE, callsArgs_top args, Bool.and_self]
    | .index _ _ b i => by simp only [callsE, callsE_top b, callsE_top i, Bool.and_self]
    | .member _ b _ => by simp only [callsE, callsE_top b]
    | .swizzle _ b _ => by simp only [callsE, callsE_top b]
    | .construct _ args => by simp only [callsE, callsArgs_top args]
  theorem callsArgs_top : ∀ (as : Args), callsArgs (fun _ _ => true) as = true
    | .nil => rfl
    | .cons e rest => by simp only [callsArgs, callsE_top e, callsArgs_top rest, Bool.and_self]
end

theorem callsOptE_top : ∀ (oe : Option Expr), callsOptE (fun _ _ => true) oe = true
  | none => rfl
  | some e => callsE_top e

theorem callsS_top : ∀ (s : Stmt), callsS (fun _ _ => true) s = true
  | .skip => rfl
  | .decl _ _ none => rfl
  | .decl _ _ (some e) => callsE_top e
  | .expr e => callsE_top e
  | .seq a b => by simp only [callsS, callsS_top a, callsS_top b, Bool.and_self]
  | .ite1 c t => by simp only [callsS, callsE_top c, callsS_top t, Bool.and_self]
  | .ite2 c t e => by simp only [callsS, callsE_top c, callsS_top t, callsS_top e, Bool.and_self]
  | .whileL c b => by simp only [callsS, callsE_top c, callsS_top b, Bool.and_self]
  | .doL b c => by simp only [callsS, callsE_top c, callsS_top b, Bool.and_self]
  | .forL i c n b => by
    simp only [callsS, callsS_top i, callsOptE_top c, callsOptE_top n, callsS_top b, Bool.and_self]
  | .brk => rfl
  | .cont => rfl
  | .ret none => rfl
  | .ret (some e) => callsE_top e

/-- With the table that accepts every call. -/
theorem lowerFn_targetsOK_anySig (f : FnDef) (hfl : flowS false f.body = true) : targetsOK (lowerFn f).code = true :=
  lowerFn_targetsOK (fun _ _ => true) f hfl (callsS_top f.body)

theorem callP_callOK (M : Core.Module) {ins : Instr} (h : callP (resolves M) ins = true) :
    callOK (lowerModule M) ins = true := by
  cases ins with
  | call d t f as =>
    simp only [callP, resolves, arityOf, beq_iff_eq] at h
    simp only [callOK, Sim.find_lowerModule, CoreSem.findFn]
    cases hf : M.fns.find? (fun g => g.name == f) with
    | none => simp [hf] at h
    | some fd =>
      simp only [hf, Option.map_some, Option.some.injEq] at h
      simp only [Option.map_some, beq_iff_eq]
      exact h
  | _ => rfl

theorem lowerFn_callsOK (M : Core.Module) (f : FnDef) (hfl : flowS false f.body = true)
    (hc : callsS (resolves M) f.body = true) : callsOK (lowerFn f) (lowerModule M) = true :=
  List.all_eq_true.2 fun i hi => callP_callOK M (lowerFn_sok (resolves M) f hfl hc i hi).1

theorem callsResolve_fn {M : Core.Module} (hC : callsResolve M = true) {f : FnDef} (hf : f ∈ M.fns) :
    callsS (resolves M) f.body = true := by
  simp only [callsResolve, List.all_eq_true] at hC
  exact hC f hf

def tgts (c : List Instr) : List Nat := c.flatMap targetsOf

@[simp] theorem tgts_nil : tgts [] = [] := rfl
@[simp] theorem tgts_append (a b : List Instr) : tgts (a ++ b) = tgts a ++ tgts b := by
  simp [tgts]
theorem tgts_cons (x : Instr) (rest : List Instr) : tgts (x :: rest) = targetsOf x ++ tgts rest := by
  simp [tgts]
@[simp] theorem tgts_cons_newVar (d : Nat) (t : ITy) (n : String) (rest : List Instr) :
    tgts (.newVar d t n :: rest) = tgts rest := by
  rw [tgts_cons]; rfl
@[simp] theorem tgts_cons_store (sc : Scope) (v : VarKey) (s : Opd) (rest : List Instr) :
    tgts (.store sc v s :: rest) = tgts rest := by
  rw [tgts_cons]; rfl

end Lower
end Nsl
