import Nsl.Model.Names
import Nsl.Proofs.Names

/-!
C12, stage 2: the flat dictionary against the lexical scope chain.  One lemma per state transformer
and one induction each for `Frame` (the flat run rebinds no name of `V`), `Sim` (`Rel` is kept) and
`SimD` (the invariant `RelD` of the lexical run is kept: a Hoare triple).
-/

namespace Nsl.Names

open Spec

theorem lookup_cons_ne {x y : String} {t : Tag} {sc : Scope} (h : y ≠ x) :
    List.lookup y ((x, t) :: sc) = List.lookup y sc := by
  rw [List.lookup_cons, beq_false_of_ne h]

theorem lookupChain_nil (x : String) : lookupChain [] x = none := rfl

theorem lookupChain_cons (A : Scope) (ch : List Scope) (x : String) :
    lookupChain (A :: ch) x = (List.lookup x A).or (lookupChain ch x) := by
  rw [lookupChain]; cases List.lookup x A <;> rfl

theorem lookupChain_nil_cons (r : List Scope) (x : String) :
    lookupChain ([] :: r) x = lookupChain r x := by
  rw [lookupChain_cons]; rfl

theorem lookupChain_extend (A : Scope) (ch : List Scope) (x : String) :
    lookupChain (extend A ch) x = (List.lookup x A).or (lookupChain ch x) := by
  cases ch with
  | nil => rw [extend, lookupChain_cons]
  | cons sc r => rw [extend, lookupChain_cons, lookupChain_cons, List.lookup_append, Option.or_assoc]

theorem lookupFlat_eq (P G d : Scope) (x : String) :
    lookupFlat P G d x = (List.lookup x d).or ((List.lookup x P).or (List.lookup x G)) := by
  rw [lookupFlat]; cases List.lookup x d <;> cases List.lookup x P <;> rfl

theorem tagScope_lookup (mk : Nat → Tag) (xs : List String) (x : String) :
    ∀ i, (List.lookup x (tagScope mk i xs)).isSome = true ↔ x ∈ xs := by
  induction xs with
  | nil => intro i; simp [tagScope]
  | cons y ys ih =>
    intro i
    rw [tagScope, List.mem_cons]
    by_cases h : x = y
    · rw [h, List.lookup_cons_self]; simp
    · rw [lookup_cons_ne h, ih]; simp [h]

theorem bindInner_env (x : String) (t : Tag) (st : St (List Scope)) :
    (bindInner x t st).env = extend [(x, t)] st.env := by
  rw [bindInner]; cases st.env <;> rfl

theorem bindInner_oracle (x : String) (t : Tag) (st : St (List Scope)) :
    (bindInner x t st).oracle = st.oracle := by
  rw [bindInner]; cases st.env <;> rfl

theorem bindInner_trace (x : String) (t : Tag) (st : St (List Scope)) :
    (bindInner x t st).trace = st.trace := by
  rw [bindInner]; cases st.env <;> rfl

theorem extend_ne_nil (A : Scope) (ch : List Scope) : extend A ch ≠ [] := by
  cases ch <;> simp [extend]

theorem Refines.append {l f l' f' : List Event} (h : Refines l f) (h' : Refines l' f') :
    Refines (l ++ l') (f ++ f') := by
  fun_induction Refines l f with
  | case1 => exact h'
  | case2 u d l u' d' f ih => exact ⟨h.1, h.2.1, ih h.2.2⟩
  | case3 => exact h.elim

theorem Refines.eq_of_allSome {l f : List Event} (h : Refines l f)
    (hs : ∀ e ∈ l, e.2.isSome = true) : f = l := by
  fun_induction Refines l f with
  | case1 => rfl
  | case2 u d l u' d' f ih =>
    obtain ⟨rfl, hd, hr⟩ := h
    rw [ih hr fun e he => hs e (List.mem_cons_of_mem _ he)]
    rcases hd with rfl | rfl
    · cases hs _ (List.mem_cons_self ..)
    · rfl
  | case3 => exact h.elim

def Frame (V : List String) (f : St Scope → St Scope) : Prop :=
  ∀ st y, y ∈ V → List.lookup y (f st).env = List.lookup y st.env

theorem Frame.comp {V f g} (hf : Frame V f) (hg : Frame V g) : Frame V (fun st => g (f st)) :=
  fun st y hy => (hg (f st) y hy).trans (hf st y hy)

theorem Frame.mono {V V' f} (h : V' ⊆ V) (hf : Frame V f) : Frame V' f :=
  fun st y hy => hf st y (h hy)

theorem Frame.iter {V f} (hf : Frame V f) : ∀ n, Frame V (iter f n)
  | 0 => fun _ _ _ => rfl
  | n + 1 => fun st y hy => (Frame.iter hf n (f st) y hy).trans (hf st y hy)

theorem Frame.withOracle {V} {f : Nat → St Scope → St Scope} (hf : ∀ c, Frame V (f c)) :
    Frame V (withOracle f) := by
  intro st y hy
  unfold Names.withOracle
  split
  · exact hf 0 st y hy
  · exact hf _ _ y hy

theorem Frame.bind {V x t} (hx : x ∉ V) : Frame V (bindFlat x t) :=
  fun _ _ hy => lookup_cons_ne fun h => hx (h ▸ hy)

theorem runF_frame (P G : Scope) (s : S) : ∀ k V, ok V s = true → Frame V (runF P G s k) := by
  induction s with
  | decl x => exact fun k V h => Frame.bind (ok_decl.1 h)
  | use x => exact fun k V _ st y _ => rfl
  | skip => exact fun k V _ st y _ => rfl
  | seq a b iha ihb =>
    intro k V h
    show Frame V fun st => runF P G b (k + size a) (runF P G a k st)
    exact Frame.comp (iha k V (ok_seq.1 h).1)
      (Frame.mono (List.subset_append_left ..) (ihb _ _ (ok_seq.1 h).2))
  | block s ih => exact ih
  | ite t e iht ihe =>
    intro k V h
    refine Frame.withOracle fun c => ?_
    split
    · exact ihe _ V (ok_ite_else h)
    · exact iht _ V (ok_ite.1 h).1
  | forL i b ih =>
    cases i with
    | none => exact fun k V h => Frame.withOracle fun n => Frame.iter (ih _ V h) n
    | some i =>
      exact fun k V h => Frame.withOracle fun n => Frame.comp (Frame.bind (ok_for.1 h).1)
        (Frame.mono (List.subset_append_left ..) (Frame.iter (ih _ _ (ok_for.1 h).2) n))
  | whileL b ih => exact fun k V h => Frame.withOracle fun n => Frame.iter (ih _ V h) n
  | doL b ih => exact fun k V h => Frame.withOracle fun n => Frame.iter (ih _ V h) (n + 1)

section Sim

variable (P G : Scope)

/-- Every name the chain resolves is in `V`, and the dictionary (with its fall-backs) resolves it
alike. -/
def Rel (V : List String) (sl : St (List Scope)) (sf : St Scope) : Prop :=
  (∀ x t, lookupChain sl.env x = some t → x ∈ V ∧ lookupFlat P G sf.env x = some t) ∧
  sl.oracle = sf.oracle ∧ Refines sl.trace sf.trace

def Sim (V W : List String) (fl : St (List Scope) → St (List Scope)) (ff : St Scope → St Scope) :
    Prop :=
  ∀ sl sf, Rel P G V sl sf → Rel P G W (fl sl) (ff sf)

variable {P G}

theorem Sim.comp {V W U fl ff gl gf} (h1 : Sim P G V W fl ff) (h2 : Sim P G W U gl gf) :
    Sim P G V U (fun st => gl (fl st)) (fun st => gf (ff st)) :=
  fun _ _ h => h2 _ _ (h1 _ _ h)

theorem Sim.iter {V fl ff} (h : Sim P G V V fl ff) : ∀ n, Sim P G V V (iter fl n) (iter ff n)
  | 0 => fun _ _ hr => hr
  | n + 1 => fun _ _ hr => Sim.iter h n _ _ (h _ _ hr)

theorem Sim.withOracle {V W} {fl : Nat → St (List Scope) → St (List Scope)}
    {ff : Nat → St Scope → St Scope} (h : ∀ c, Sim P G V W (fl c) (ff c)) :
    Sim P G V W (withOracle fl) (withOracle ff) := by
  intro sl sf hr
  obtain ⟨b, c, d⟩ := hr
  unfold Names.withOracle
  rw [← c]
  cases ho : sl.oracle with
  | nil => exact h 0 _ _ ⟨b, c, d⟩
  | cons n o => exact h n _ _ ⟨b, rfl, d⟩

/-- The flat side drops nothing at a scope exit; `Frame` says the leftovers shadow no name of `V`. -/
theorem Sim.scoped {V W fl ff} (h : Sim P G V W fl ff) (hfr : Frame V ff) :
    Sim P G V V (scopedRun fl) ff := by
  intro sl sf ⟨b, c, d⟩
  obtain ⟨_, c', d'⟩ := h { sl with env := [] :: sl.env } sf
    ⟨fun x t hx => b x t (by rwa [lookupChain_nil_cons] at hx), c, d⟩
  refine ⟨fun x t hx => ?_, c', d'⟩
  obtain ⟨hxV, hfl⟩ := b x t hx
  rw [lookupFlat_eq] at hfl ⊢
  exact ⟨hxV, hfr sf x hxV ▸ hfl⟩

theorem Sim.bind {V x t} : Sim P G V (V ++ [x]) (bindInner x t) (bindFlat x t) := by
  intro sl sf ⟨b, c, d⟩
  refine ⟨fun y u hy => ?_, by rwa [bindInner_oracle], by rwa [bindInner_trace]⟩
  rw [bindInner_env, lookupChain_extend] at hy
  show _ ∧ lookupFlat P G ((x, t) :: sf.env) y = some u
  rw [lookupFlat_eq]
  by_cases hyx : y = x
  · subst hyx
    rw [List.lookup_cons_self] at hy ⊢
    exact ⟨List.mem_append_right _ (List.mem_singleton.2 rfl), hy⟩
  · rw [lookup_cons_ne hyx] at hy ⊢
    obtain ⟨h1, h2⟩ := b y u hy
    exact ⟨List.mem_append_left _ h1, lookupFlat_eq P G _ _ ▸ h2⟩

theorem Sim.use {V} (k : Nat) (x : String) :
    Sim P G V V (fun st => emit (k, lookupChain st.env x) st)
      (fun st => emit (k, lookupFlat P G st.env x) st) := by
  intro sl sf ⟨b, c, d⟩
  refine ⟨b, c, Refines.append d ⟨rfl, ?_, trivial⟩⟩
  cases hl : lookupChain sl.env x with
  | none => exact Or.inl rfl
  | some t => exact Or.inr (b x t hl).2.symm

theorem sim (s : S) : ∀ k V, ok V s = true → Sim P G V (V ++ adds s) (runL s k) (runF P G s k) := by
  induction s with
  | decl x => exact fun k V _ => Sim.bind
  | use x => intro k V _; simp only [adds, List.append_nil]; exact Sim.use k x
  | skip => intro k V _; simp only [adds, List.append_nil]; exact fun _ _ h => h
  | seq a b iha ihb =>
    intro k V h
    simp only [adds, ← List.append_assoc, runL, runF]
    exact Sim.comp (iha k V (ok_seq.1 h).1) (ihb (k + size a) _ (ok_seq.1 h).2)
  | block s ih =>
    intro k V h
    simp only [adds, List.append_nil]
    exact Sim.scoped (ih k V h) (runF_frame P G s k V h)
  | ite t e iht ihe =>
    intro k V h
    have he := ok_ite_else h
    have ht := (ok_ite.1 h).1
    simp only [adds, List.append_nil]
    refine Sim.withOracle fun c => ?_
    by_cases hc : c = 0
    · simp only [if_pos hc]
      exact Sim.scoped (ihe _ V he) (runF_frame P G e _ V he)
    · simp only [if_neg hc]
      exact Sim.scoped (iht _ V ht) (runF_frame P G t _ V ht)
  | forL i b ih =>
    intro k V h
    simp only [adds, List.append_nil]
    cases i with
    | none =>
      have hfr := runF_frame P G b (k + 1) V h
      exact Sim.withOracle fun n =>
        Sim.scoped (Sim.iter (Sim.scoped (ih (k + 1) V h) hfr) n) (Frame.iter hfr n)
    | some i =>
      obtain ⟨hi, hb⟩ := ok_for.1 h
      have hfr := runF_frame P G b (k + 1) _ hb
      exact Sim.withOracle fun n =>
        Sim.scoped (Sim.comp Sim.bind (Sim.iter (Sim.scoped (ih (k + 1) _ hb) hfr) n))
          (Frame.comp (Frame.bind hi) (Frame.mono (List.subset_append_left ..) (Frame.iter hfr n)))
  | whileL b ih =>
    intro k V h
    simp only [adds, List.append_nil]
    exact Sim.withOracle fun n => Sim.iter (Sim.scoped (ih k V h) (runF_frame P G b _ V h)) n
  | doL b ih =>
    intro k V h
    simp only [adds, List.append_nil]
    exact Sim.withOracle fun n => Sim.iter (Sim.scoped (ih k V h) (runF_frame P G b _ V h)) (n + 1)

end Sim

def RelD (V : List String) (st : St (List Scope)) : Prop :=
  st.env ≠ [] ∧ (∀ x, x ∈ V → (lookupChain st.env x).isSome = true) ∧
  ∀ e ∈ st.trace, e.2.isSome = true

def SimD (V W : List String) (f : St (List Scope) → St (List Scope)) : Prop :=
  ∀ st, RelD V st → RelD W (f st)

theorem SimD.comp {V W U f g} (h1 : SimD V W f) (h2 : SimD W U g) : SimD V U (fun st => g (f st)) :=
  fun _ h => h2 _ (h1 _ h)

theorem SimD.iter {V f} (h : SimD V V f) : ∀ n, SimD V V (iter f n)
  | 0 => fun _ hr => hr
  | n + 1 => fun _ hr => SimD.iter h n _ (h _ hr)

theorem SimD.withOracle {V W} {f : Nat → St (List Scope) → St (List Scope)}
    (h : ∀ c, SimD V W (f c)) : SimD V W (withOracle f) := by
  intro st hr
  unfold Names.withOracle
  split
  · exact h 0 _ hr
  · exact h _ _ hr

theorem SimD.scoped {V W f} (h : SimD V W f) : SimD V V (scopedRun f) := by
  intro st ⟨a, b, c⟩
  obtain ⟨_, _, c'⟩ := h { st with env := [] :: st.env }
    ⟨List.cons_ne_nil _ _, fun x hx => by rw [lookupChain_nil_cons]; exact b x hx, c⟩
  exact ⟨a, b, c'⟩

theorem SimD.bind {V x t} : SimD V (V ++ [x]) (bindInner x t) := by
  intro st ⟨_, b, c⟩
  refine ⟨?_, fun y hy => ?_, by rwa [bindInner_trace]⟩ <;> rw [bindInner_env]
  · exact extend_ne_nil _ _
  · rw [lookupChain_extend, Option.isSome_or, Bool.or_eq_true]
    rcases List.mem_append.1 hy with hy | hy
    · exact Or.inr (b y hy)
    · rw [List.mem_singleton.1 hy, List.lookup_cons_self]; exact Or.inl rfl

theorem SimD.use {V} (k : Nat) (x : String) (hx : x ∈ V) :
    SimD V V (fun st => emit (k, lookupChain st.env x) st) := by
  intro st ⟨a, b, c⟩
  refine ⟨a, b, fun e he => ?_⟩
  rcases List.mem_append.1 he with he | he
  · exact c e he
  · rw [List.mem_singleton.1 he]; exact b x hx

theorem resolved (s : S) : ∀ k V, declaredOk V s = true → SimD V (V ++ adds s) (runL s k) := by
  induction s with
  | decl x => intro k V _; exact SimD.bind
  | use x =>
    intro k V h
    simp only [adds, List.append_nil]
    exact SimD.use k x (by simpa [declaredOk] using h)
  | skip => intro k V _; simp only [adds, List.append_nil]; exact fun _ h => h
  | seq a b iha ihb =>
    intro k V h
    simp only [declaredOk, Bool.and_eq_true] at h
    simp only [adds, ← List.append_assoc, runL]
    exact SimD.comp (iha k V h.1) (ihb (k + size a) _ h.2)
  | block s ih =>
    intro k V h
    simp only [adds, List.append_nil]
    exact SimD.scoped (ih k V h)
  | ite t e iht ihe =>
    intro k V h
    simp only [declaredOk, Bool.and_eq_true] at h
    simp only [adds, List.append_nil]
    refine SimD.withOracle fun c => ?_
    by_cases hc : c = 0
    · simp only [if_pos hc]; exact SimD.scoped (ihe _ V h.2)
    · simp only [if_neg hc]; exact SimD.scoped (iht _ V h.1)
  | forL i b ih =>
    intro k V h
    simp only [adds, List.append_nil]
    cases i with
    | none => exact SimD.withOracle fun n => SimD.scoped (SimD.iter (SimD.scoped (ih (k + 1) V h)) n)
    | some i =>
      exact SimD.withOracle fun n =>
        SimD.scoped (SimD.comp SimD.bind (SimD.iter (SimD.scoped (ih (k + 1) _ h)) n))
  | whileL b ih =>
    intro k V h
    simp only [adds, List.append_nil]
    exact SimD.withOracle fun n => SimD.iter (SimD.scoped (ih k V h)) n
  | doL b ih =>
    intro k V h
    simp only [adds, List.append_nil]
    exact SimD.withOracle fun n => SimD.iter (SimD.scoped (ih k V h)) (n + 1)

theorem checkMod_fn {m : Mod} (h : checkMod m = true) {f : Fn} (hf : f ∈ m.fns) :
    (m.globals ++ f.params).Nodup ∧ ok (m.globals ++ f.params) f.body = true := by
  rw [checkMod_eq_okMod] at h
  simp only [okMod, Bool.and_eq_true, decide_eq_true_eq, List.all_eq_true] at h
  exact h.2 f hf

theorem init_lookup (m : Mod) (f : Fn) (x : String) :
    (lookupChain [paramScope f, globalScope m] x).isSome = true ↔ x ∈ m.globals ++ f.params := by
  -- parameters first, then globals; each scope resolves exactly its own names
  rw [lookupChain_cons, lookupChain_cons, lookupChain_nil, Option.or_none, Option.isSome_or,
    Bool.or_eq_true, paramScope, globalScope, tagScope_lookup, tagScope_lookup, List.mem_append]
  exact or_comm

theorem rel_init (m : Mod) (f : Fn) (o : List Nat) :
    Rel (paramScope f) (globalScope m) (m.globals ++ f.params)
      ⟨[paramScope f, globalScope m], o, []⟩ ⟨[], o, []⟩ := by
  refine ⟨fun x t hx => ⟨(init_lookup m f x).1 (Option.isSome_of_eq_some hx), ?_⟩, rfl, trivial⟩
  rw [lookupFlat_eq]
  simpa only [lookupChain_cons, lookupChain_nil, Option.or_none, List.lookup_nil, Option.none_or] using hx

theorem relD_init (m : Mod) (f : Fn) (o : List Nat) :
    RelD (m.globals ++ f.params) ⟨[paramScope f, globalScope m], o, []⟩ :=
  ⟨List.cons_ne_nil _ _, fun x => (init_lookup m f x).2, nofun⟩

theorem ok_locals (s : S) : ∀ V, ok V s = true → ∀ x ∈ locals s, x ∉ V := by
  induction s with
  | decl x => intro V h y hy; rw [List.mem_singleton.1 hy]; exact ok_decl.1 h
  | use x => exact fun _ _ _ hy => nomatch hy
  | skip => exact fun _ _ _ hy => nomatch hy
  | seq a b iha ihb =>
    intro V h y hy
    rcases List.mem_append.1 hy with hy | hy
    · exact iha V (ok_seq.1 h).1 y hy
    · exact ihb V (ok_mono (List.subset_append_left ..) (ok_seq.1 h).2) y hy
  | block s ih => exact ih
  | ite a b iha ihb =>
    intro V h y hy
    rcases List.mem_append.1 hy with hy | hy
    · exact iha V (ok_ite.1 h).1 y hy
    · exact ihb V (ok_ite_else h) y hy
  | forL i b ih =>
    cases i with
    | none => exact ih
    | some i =>
      intro V h y hy
      rcases List.mem_cons.1 hy with rfl | hy
      · exact (ok_for.1 h).1
      · exact ih V (ok_mono (List.subset_append_left ..) (ok_for.1 h).2) y hy
  | whileL s ih => exact ih
  | doL s ih => exact ih

end Nsl.Names
