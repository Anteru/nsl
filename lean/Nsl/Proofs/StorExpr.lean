import Nsl.Proofs.StorBase
import Nsl.Proofs.SimMain
/-!
# Storage core: the claims of the simulation, and the core as `Sim` sees it

All claims are for every rank environment `Γ`.  `ESimS`/`ASimS`: the code runs (`Sim.Run`) to the end of its fragment,
the operand holds the value, which is never an alias; `FrOKS Γ` is kept and no aggregate local appears (`DomLe`).
`PSimS`: the code of an access chain of aggregate type leaves the alias of the place `evalPlace` computes in the result
register.  `StSimS`: `lowerStore` of an assignment target simulates `storeTo`.
-/
namespace Nsl
namespace Stor
open Core VM CoreSem Lower Sim

def ESimS (M : Core.Module) (n : Nat) : Prop :=
  ∀ {code : List Instr} {Γ : Env} {e : Expr} {fr : Frame} {g : Globals} {v : Val} {fr' : Frame} {g' : Globals},
    evalE M n e fr g = .val v fr' g' → okES Γ e = true → FrOKS Γ fr → MapOK g →
    ∀ {k : Nat} {c : List Instr} {o : Opd} {k' q : Nat} (ρ : Map Nat Val),
      lowerE e k = (c, o, k') → At code q c →
      ∃ ρ', Run (lowerModule M) code q c k (ρ, fr, g) (ρ', fr', g') ∧
        evalOpd (vf ρ' fr') o = .ok v ∧ Val.isPtr v = false ∧ FrOKS Γ fr' ∧ MapOK g' ∧ DomLe Γ fr' fr

def ASimS (M : Core.Module) (n : Nat) : Prop :=
  ∀ {code : List Instr} {Γ : Env} {as : Args} {fr : Frame} {g : Globals} {vs : List Val} {fr' : Frame} {g' : Globals},
    evalArgs M n as fr g = .vals vs fr' g' → okArgsS Γ as = true → FrOKS Γ fr → MapOK g →
    ∀ {k : Nat} {c : List Instr} {os : List Opd} {k' q : Nat} (ρ : Map Nat Val),
      lowerArgs as k = (c, os, k') → At code q c →
      ∃ ρ', Run (lowerModule M) code q c k (ρ, fr, g) (ρ', fr', g') ∧
        OpdsEval (vf ρ' fr') os vs ∧ FrOKS Γ fr' ∧ MapOK g' ∧ DomLe Γ fr' fr

/-- Access chains.  The VM reads the root variable when it starts navigating, the reference semantics only after
the index has been evaluated; hence the execution part is conditional on the root being readable at the end. -/
def PSimS (M : Core.Module) (n : Nat) : Prop :=
  ∀ {code : List Instr} {Γ : Env} {e : Expr} {fr : Frame} {g : Globals} {r : Root} {p : List Key} {fr' : Frame}
    {g' : Globals} {d : Nat},
    evalPlace M n e fr g = .place r p fr' g' → placeRank Γ e = some d → FrOKS Γ fr → MapOK g →
    ∀ {k : Nat} {c : List Instr} {o : Opd} {k' q : Nat} (ρ : Map Nat Val),
      lowerE e k = (c, o, k') → At code q c →
      ∃ ρ', ((∃ root, readRoot fr' g' r = .ok root) →
          Run (lowerModule M) code q c k (ρ, fr, g) (ρ', fr', g') ∧ evalOpd (vf ρ' fr') o = .ok (.ptr r p)) ∧
        FrOKS Γ fr' ∧ MapOK g' ∧ DomLe Γ fr' fr

def StSimS (M : Core.Module) (n : Nat) : Prop :=
  ∀ {code : List Instr} {Γ : Env} {lhs : Expr} {fr : Frame} {g : Globals} {v w : Val} {fr' : Frame} {g' : Globals},
    storeTo M n lhs v fr g = .val w fr' g' → isLhs lhs = true → okES Γ lhs = true → FrOKS Γ fr → MapOK g →
    ∀ {k : Nat} {c : List Instr} {o : Opd} {k' q : Nat} (ρ : Map Nat Val),
      lowerStore lhs o k = (c, k') → At code q c → evalOpd (vf ρ fr) o = .ok v → OpdBelow o k →
      ∃ ρ', Run (lowerModule M) code q c k (ρ, fr, g) (ρ', fr', g') ∧
        Val.isPtr v = false ∧ FrOKS Γ fr' ∧ MapOK g' ∧ DomLe Γ fr' fr

theorem okSS_step {Γ : Env} {il : Bool} {s : Stmt} (h : okSS Γ il s = true) :
    StmtStep (fun e => okES Γ e = true) (fun il s => okSS Γ il s = true) il s := by
  cases s with
  | skip => trivial
  | decl x ty i =>
    cases i with
    | none => trivial
    | some e => simp only [okSS, Bool.and_eq_true] at h; exact h.2
  | expr e => exact h
  | forL i c n b =>
    simp only [okSS, Bool.and_eq_true] at h
    obtain ⟨⟨⟨h1, h2⟩, h3⟩, h4⟩ := h
    exact ⟨h1, fun e he => by subst he; exact h2, fun e he => by subst he; exact h3, h4,
      by simp only [okSS, h2, h3, h4, Bool.and_self]⟩
  | brk => exact h
  | cont => exact h
  | ret oe =>
    cases oe with
    | none => trivial
    | some e => exact h
  | _ => simpa only [okSS, StmtStep, Bool.and_eq_true, and_assoc] using h

/-- A declared local is a tree of the rank of its name: a fresh instance has the rank of its type, a scalar
initialiser rank 0. -/
theorem okSS_decl {Γ : Env} {il : Bool} {x : String} {ty : ITy} {i : Option Expr}
    (h : okSS Γ il (.decl x ty i) = true) : Tree (Γ x) (createInstance ty) ∧ (i.isSome = true → Γ x = 0) := by
  cases i with
  | none =>
    simp only [okSS, beq_iff_eq] at h
    exact ⟨h ▸ tree_createInstance ty, fun hh => nomatch hh⟩
  | some e =>
    simp only [okSS, Bool.and_eq_true, beq_iff_eq] at h
    exact ⟨h.1.2 ▸ createInstance_noPtr ty, fun _ => h.1.2⟩

def disc (Γ : Env) : Disc where
  E e := okES Γ e = true
  S il s := okSS Γ il s = true
  Fr := FrOKS Γ
  G := MapOK
  V _ v := Val.isPtr v = false
  R v := Val.isPtr v = false
  noPtr h := h
  step := okSS_step
  decl h hf := ⟨hf.1.set _ (okSS_decl h).1, hf.2⟩
  init {_ x _ _ a _} h ha hf := ⟨hf.1.set x (by rw [(okSS_decl h).2 rfl]; exact ha), hf.2⟩
  retNone _ := rfl
  retSome _ h := h

def mdisc (M : Core.Module) : MDisc M where
  fn f := disc (envOf f.body)
  G := MapOK
  fnG _ := rfl
  Fn f := okFnS f = true
  Args _ args := ListOK args
  Ret _ v := Val.isPtr v = false
  body h := h
  entry _ h := ⟨LocOK.nil _, h⟩
  ret _ h := h
  fall _ _ _ := rfl

theorem ESimS.toW {M : Core.Module} {n : Nat} (h : ESimS M n) (Γ : Env) : ESimW M (disc Γ) n := by
  intro code e fr g v fr' g' he hok hf hg k c o k' q ρ hl hat
  obtain ⟨ρ', r, e1, p1, hf1, hg1, _⟩ := h he hok hf hg ρ hl hat
  exact ⟨ρ', r.1, e1, p1, hf1, hg1⟩

end Stor
end Nsl
