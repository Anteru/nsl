import Nsl.Proofs.LowerAccStorage
import Nsl.Proofs.LowerWF
import Nsl.Proofs.StorMain
import Nsl.Model.VectorCore
/-!
# The scalar and the vector core under the theorems on lowered code

The scalar core is the part of the storage core in which every local has rank 0 (`Stor.okFn_okFnS`), and there
`AccInS` is `AccIn`.  The vector core satisfies the two decidable conditions of the general theorems: every `var` node
has `shape ty ≠ bad`, none of which is an aggregate (`valVarsS`), and `break`/`continue` occur inside loops (`flowS`).
-/
namespace Nsl
namespace Lower
open Core Opt WF

theorem AccInS.toAccIn {V : List (Scope × VarKey)} {c : List Instr} (h : AccInS (fun _ => 0) V c) : AccIn V c := by
  intro ins hins
  have := h ins hins
  cases ins with
  | load d ty sc var =>
    refine ⟨this.1, ?_⟩
    cases hag : ty.isAggregate with
    | false => rfl
    | true =>
      obtain ⟨_, _, _, hx⟩ := this.2 hag
      exact absurd rfl hx
  | store sc var src => exact this.1
  | _ => trivial

theorem lowerArgs_acc (V : List (Scope × VarKey)) : ∀ (as : Args), okArgs as = true → (∀ a ∈ accArgs as, a ∈ V) →
    ∀ (k : Nat) (c : List Instr) (os : List Opd) (k' : Nat), lowerArgs as k = (c, os, k') → AccIn V c :=
  fun as hok hV k c os k' h =>
    (lowerArgs_accS (fun _ => 0) V as (Stor.okArgs_okArgsS _ (fun _ => rfl) as hok) hV k c os k' h).toAccIn

theorem lowerFn_forwardOK_raw (f : FnDef) (h : okFn f = true) (hs : noShadowFn f = true) :
    forwardOK none (lowerFn f).code = true :=
  lowerFn_forwardOKS_raw f (Stor.okFn_okFnS h) hs

theorem notAgg_of_shape {ty : ITy} (h : (shape ty != .bad) = true) : (!ty.isAggregate) = true := by
  cases ty <;> simp_all [shape, ITy.isAggregate]

mutual
  theorem okEV_valVarsE (M : Core.Module) (ps : List (String × ITy)) (Γ : Map String Sh) :
      ∀ (e : Expr), okEV M ps Γ e = true → valVarsE e = true
    | .litI _, _ => rfl
    | .litF _, _ => rfl
    | .var sc key ty, h => by
      simp only [okEV, Bool.and_eq_true] at h
      simp only [valVarsE]
      exact notAgg_of_shape h.1
    | .bin op ty l r, h => by
      simp only [okEV, Bool.and_eq_true] at h
      simp only [valVarsE, Bool.and_eq_true]
      exact ⟨okEV_valVarsE M ps Γ l h.1.2, okEV_valVarsE M ps Γ r h.2⟩
    | .cast ty e, h => by
      simp only [okEV, Bool.and_eq_true] at h
      simp only [valVarsE]
      exact okEV_valVarsE M ps Γ e h.2
    | .assign lhs rhs, h => by
      simp only [okEV, Bool.and_eq_true] at h
      simp only [valVarsE, Bool.and_eq_true]
      exact ⟨okEV_valVarsE M ps Γ lhs h.1.2, okEV_valVarsE M ps Γ rhs h.2⟩
    | .affix post inc x, h => by
      simp only [okEV, Bool.and_eq_true] at h
      simp only [valVarsE]
      exact okEV_valVarsE M ps Γ x h.2
    | .call fn ty args, h => by
      simp only [okEV, Bool.and_eq_true] at h
      simp only [valVarsE]
      exact okArgsV_valVarsArgs M ps Γ args h.2
    | .index kd ty base idx, h => by
      simp only [okEV, Bool.and_eq_true] at h
      simp only [valVarsE, Bool.and_eq_true]
      exact ⟨okEV_valVarsE M ps Γ base h.1.2, okEV_valVarsE M ps Γ idx h.2⟩
    | .member _ _ _, h => by simp [okEV] at h
    | .swizzle ty base idxs, h => by
      simp only [okEV, Bool.and_eq_true] at h
      simp only [valVarsE]
      exact okEV_valVarsE M ps Γ base h.2
    | .construct ty args, h => by
      simp only [okEV, Bool.and_eq_true] at h
      simp only [valVarsE]
      exact okArgsV_valVarsArgs M ps Γ args h.2
  theorem okArgsV_valVarsArgs (M : Core.Module) (ps : List (String × ITy)) (Γ : Map String Sh) :
      ∀ (as : Args), okArgsV M ps Γ as = true → valVarsArgs as = true
    | .nil, _ => rfl
    | .cons e rest, h => by
      simp only [okArgsV, Bool.and_eq_true] at h
      simp only [valVarsArgs, Bool.and_eq_true]
      exact ⟨okEV_valVarsE M ps Γ e h.1, okArgsV_valVarsArgs M ps Γ rest h.2⟩
end

theorem okOptEV_valVarsOptE (M : Core.Module) (ps : List (String × ITy)) (Γ : Map String Sh) :
    ∀ (oe : Option Expr), okOptEV M ps Γ oe = true → valVarsOptE oe = true
  | none, _ => rfl
  | some e, h => okEV_valVarsE M ps Γ e h

theorem okSV_valVarsS (M : Core.Module) (ps : List (String × ITy)) (Γ : Map String Sh) (rs : Sh) :
    ∀ (s : Stmt) (il : Bool), okSV M ps Γ rs il s = true → valVarsS s = true
  | .skip, _, _ => rfl
  | .decl _ _ none, _, _ => rfl
  | .decl _ _ (some e), _, h => by
    simp only [okSV, Bool.and_eq_true] at h
    exact okEV_valVarsE M ps Γ e h.2
  | .expr e, _, h => okEV_valVarsE M ps Γ e h
  | .seq a b, il, h => by
    simp only [okSV, valVarsS, Bool.and_eq_true] at h ⊢
    exact ⟨okSV_valVarsS M ps Γ rs a il h.1, okSV_valVarsS M ps Γ rs b il h.2⟩
  | .ite1 c t, il, h => by
    simp only [okSV, valVarsS, Bool.and_eq_true] at h ⊢
    exact ⟨okEV_valVarsE M ps Γ c h.1, okSV_valVarsS M ps Γ rs t il h.2⟩
  | .ite2 c t e, il, h => by
    simp only [okSV, valVarsS, Bool.and_eq_true] at h ⊢
    exact ⟨⟨okEV_valVarsE M ps Γ c h.1.1, okSV_valVarsS M ps Γ rs t il h.1.2⟩, okSV_valVarsS M ps Γ rs e il h.2⟩
  | .whileL c b, _, h => by
    simp only [okSV, valVarsS, Bool.and_eq_true] at h ⊢
    exact ⟨okEV_valVarsE M ps Γ c h.1, okSV_valVarsS M ps Γ rs b true h.2⟩
  | .doL b c, _, h => by
    simp only [okSV, valVarsS, Bool.and_eq_true] at h ⊢
    exact ⟨okSV_valVarsS M ps Γ rs b true h.1, okEV_valVarsE M ps Γ c h.2⟩
  | .forL i c n b, il, h => by
    simp only [okSV, valVarsS, Bool.and_eq_true] at h ⊢
    exact ⟨⟨⟨okSV_valVarsS M ps Γ rs i il h.1.1.1, okOptEV_valVarsOptE M ps Γ c h.1.1.2⟩,
      okOptEV_valVarsOptE M ps Γ n h.1.2⟩, okSV_valVarsS M ps Γ rs b true h.2⟩
  | .brk, _, _ => rfl
  | .cont, _, _ => rfl
  | .ret none, _, _ => rfl
  | .ret (some e), _, h => by
    simp only [okSV, Bool.and_eq_true] at h
    exact okEV_valVarsE M ps Γ e h.2

theorem okSV_flowS (M : Core.Module) (ps : List (String × ITy)) (Γ : Map String Sh) (rs : Sh) :
    ∀ (s : Stmt) (il : Bool), okSV M ps Γ rs il s = true → flowS il s = true
  | .skip, _, _ => rfl
  | .decl _ _ _, _, _ => rfl
  | .expr _, _, _ => rfl
  | .seq a b, il, h => by
    simp only [okSV, flowS, Bool.and_eq_true] at h ⊢
    exact ⟨okSV_flowS M ps Γ rs a il h.1, okSV_flowS M ps Γ rs b il h.2⟩
  | .ite1 _ t, il, h => by
    simp only [okSV, Bool.and_eq_true] at h
    exact okSV_flowS M ps Γ rs t il h.2
  | .ite2 _ t e, il, h => by
    simp only [okSV, flowS, Bool.and_eq_true] at h ⊢
    exact ⟨okSV_flowS M ps Γ rs t il h.1.2, okSV_flowS M ps Γ rs e il h.2⟩
  | .whileL _ b, _, h => by
    simp only [okSV, Bool.and_eq_true] at h
    exact okSV_flowS M ps Γ rs b true h.2
  | .doL b _, _, h => by
    simp only [okSV, Bool.and_eq_true] at h
    exact okSV_flowS M ps Γ rs b true h.1
  | .forL i _ _ b, il, h => by
    simp only [okSV, flowS, Bool.and_eq_true] at h ⊢
    exact ⟨okSV_flowS M ps Γ rs i il h.1.1.1, okSV_flowS M ps Γ rs b true h.2⟩
  | .brk, _, h => h
  | .cont, _, h => h
  | .ret _, _, _ => rfl

theorem okFnV_valVarsS {M : Core.Module} {f : FnDef} (h : okFnV M f = true) : valVarsS f.body = true := by
  simp only [okFnV, Bool.and_eq_true] at h
  exact okSV_valVarsS M _ _ _ f.body false h.1.2

theorem okFnV_flowS {M : Core.Module} {f : FnDef} (h : okFnV M f = true) : flowS false f.body = true := by
  simp only [okFnV, Bool.and_eq_true] at h
  exact okSV_flowS M _ _ _ f.body false h.1.2

end Lower
end Nsl
