import Nsl.Proofs.SimStmt
/-!
# Calls, and the induction on the fuel of the reference run, for every core at once
-/
namespace Nsl
namespace Sim
open Core VM CoreSem Lower

/-- A core as the call level sees it.  The invariant of the globals is the same in every body, because a call hands
the callee's final globals to the caller (`fnG`, `rfl` in the instances). -/
structure MDisc (M : Core.Module) where
  /-- the statement-level data of the body of `f` -/
  fn : FnDef → Disc
  /-- invariant of the globals, the same in every function -/
  G : Globals → Prop
  fnG (f : FnDef) : (fn f).G = G
  /-- accepted functions -/
  Fn : FnDef → Prop
  /-- what a call of `name` assumes of its arguments -/
  Args : String → List Val → Prop
  /-- what a call of `name` guarantees of its result -/
  Ret : String → Val → Prop
  body {f : FnDef} : Fn f → (fn f).S false f.body
  entry {name : String} {f : FnDef} {args : List Val} :
    findFn M name = some f → Args name args → (fn f).Fr { args := args }
  ret {name : String} {f : FnDef} {v : Val} : findFn M name = some f → (fn f).R v → Ret name v
  /-- falling off the end yields `None`: admissible, or ruled out by the core (vector results) -/
  fall {name : String} {f : FnDef} {n : Nat} {args : List Val} {g : Globals} {fr' : Frame} {g' : Globals} :
    Fn f → findFn M name = some f → execS M n f.body { args := args } g = .normal fr' g' → Ret name .none

variable {M : Core.Module}

def CSim (D : MDisc M) (n : Nat) : Prop :=
  ∀ {name : String} {args : List Val} {g : Globals} {v : Val} {g' : Globals} {as : List Val},
    callFn M n name args g = .done v g' as → D.Args name args → D.G g →
    ∃ d, callD (lowerModule M) d name args g = .done v g' as ∧ D.Ret name v ∧ D.G g'

theorem csim_succ (D : MDisc M) (hM : ∀ f ∈ M.fns, D.Fn f) (n : Nat) (ihS : ∀ f, SSim M (D.fn f) n) :
    CSim D (n + 1) := by
  intro name args g v g' as h hargs hg
  obtain ⟨f, fr1, hf, rfl, hx⟩ := callFn_inv h
  have hfn := hM f (findFn_mem hf)
  have hfind : (lowerModule M).find name = some (lowerFn f) := by rw [find_lowerModule, hf]; rfl
  have ih := ihS f (LabelsOK.of_nodup (lowerFn_labels_nodup f)) (D.body hfn) (D.entry hf hargs) ((D.fnG f).symm ▸ hg)
    (brk := none) (cont := none) [] (Prod.eta _).symm ⟨At.whole _, Nat.zero_add _⟩ (fun hh => nomatch hh)
  -- a returning run of the lowered body is a finished call
  have fin : ∀ {w G A}, Returns (lowerModule M) (lowerFn f).code (0, ({ args := args } : Frame), g) w G A →
      ∃ d, callD (lowerModule M) d name args g = .done w G A := fun hr => by
    obtain ⟨d, hd⟩ := run_of_returns hr
    exact ⟨d, by simp only [callD, hfind]; exact hd⟩
  rcases hx with hx | ⟨hx, rfl⟩
  · rw [hx] at ih
    obtain ⟨hr, hret, hg1⟩ := ih
    obtain ⟨d, hd⟩ := fin hr
    exact ⟨d, hd, D.ret hf hret, D.fnG f ▸ hg1⟩
  · rw [hx] at ih
    obtain ⟨ρ', s, _, hg1⟩ := ih
    obtain ⟨d, hd⟩ := fin ⟨_, _, _, 0, s, stepI_none (List.getElem?_eq_none (Nat.le_refl _))⟩
    exact ⟨d, hd, D.fall hfn hf hx, D.fnG f ▸ hg1⟩

/-- `X n` is what the core claims of expressions at fuel `n`; its step may use the claim at every smaller fuel (access
chains unfold the reference semantics more than one level). -/
theorem sim_main (D : MDisc M) (hM : ∀ f ∈ M.fns, D.Fn f) (X : Nat → Prop) (X0 : X 0)
    (toE : ∀ n f, X n → ESimW M (D.fn f) n)
    (estep : ∀ n, (∀ m, m ≤ n → X m) → CSim D n → X (n + 1)) :
    ∀ n, X n ∧ (∀ f, SSim M (D.fn f) n) ∧ CSim D n := by
  intro n
  induction n using Nat.strongRecOn with
  | ind n ih =>
    cases n with
    | zero =>
      refine ⟨X0, ?_, ?_⟩
      · intro f code _ s fr g il _ _ _ brk cont k c k' q e ρ _ _ _
        rw [execS_zero]; trivial
      · intro name args g v g' as h
        rw [callFn_zero] at h; cases h
    | succ n =>
      obtain ⟨hX, hS, hC⟩ := ih n (Nat.lt_succ_self n)
      exact ⟨estep n (fun m hm => (ih m (Nat.lt_succ_of_le hm)).1) hC,
        fun f => ssim_succ (toE n f hX) (hS f), csim_succ D hM n hS⟩

end Sim
end Nsl
