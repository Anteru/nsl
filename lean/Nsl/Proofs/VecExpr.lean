import Nsl.Proofs.VecRows
import Nsl.Proofs.SimMain
/-!
# Vector core: the claims of the simulation, and the core as `Sim` sees it

The claims have the form of the storage core's (`StorExpr`), over the shape invariant `FrTy`/`GTy`: every claim
exports that its value has the shape of the annotation, so type preservation is proved with the simulation.
-/
namespace Nsl
namespace Vec
open Core VM CoreSem Lower Sim

def ESimV (M : Core.Module) (n : Nat) : Prop :=
  ∀ {code : List Instr} {ps : List (String × ITy)} {Γ : Map String Sh} {e : Expr} {fr : Frame} {g : Globals} {v : Val}
    {fr' : Frame} {g' : Globals},
    evalE M n e fr g = .val v fr' g' → okEV M ps Γ e = true → FrTy ps Γ fr → GTy M g →
    ∀ {k : Nat} {c : List Instr} {o : Opd} {k' q : Nat} (ρ : Map Nat Val),
      lowerE e k = (c, o, k') → At code q c →
      ∃ ρ', Run (lowerModule M) code q c k (ρ, fr, g) (ρ', fr', g') ∧
        evalOpd (vf ρ' fr') o = .ok v ∧ fits (shape (Expr.ty e)) v = true ∧ FrTy ps Γ fr' ∧ GTy M g'

def ASimV (M : Core.Module) (n : Nat) : Prop :=
  ∀ {code : List Instr} {ps : List (String × ITy)} {Γ : Map String Sh} {as : Args} {fr : Frame} {g : Globals}
    {vs : List Val} {fr' : Frame} {g' : Globals},
    evalArgs M n as fr g = .vals vs fr' g' → okArgsV M ps Γ as = true → FrTy ps Γ fr → GTy M g →
    ∀ {k : Nat} {c : List Instr} {os : List Opd} {k' q : Nat} (ρ : Map Nat Val),
      lowerArgs as k = (c, os, k') → At code q c →
      ∃ ρ', Run (lowerModule M) code q c k (ρ, fr, g) (ρ', fr', g') ∧
        OpdsEval (vf ρ' fr') os vs ∧ FitsArgs as vs ∧ FrTy ps Γ fr' ∧ GTy M g'

/-- Stores: `src` holds the value `w` (of the target's shape) in a register below the entry counter. -/
def StSimV (M : Core.Module) (n : Nat) : Prop :=
  ∀ {code : List Instr} {ps : List (String × ITy)} {Γ : Map String Sh} {lhs : Expr} {w : Val} {fr : Frame} {g : Globals}
    {u : Val} {fr' : Frame} {g' : Globals},
    storeTo M n lhs w fr g = .val u fr' g' → lhsForm lhs = true → okEV M ps Γ lhs = true →
    fits (shape (Expr.ty lhs)) w = true → FrTy ps Γ fr → GTy M g →
    ∀ {src : Opd} {k : Nat} {c : List Instr} {k' q : Nat} (ρ : Map Nat Val),
      lowerStore lhs src k = (c, k') → At code q c → evalOpd (vf ρ fr) src = .ok w → OpdBelow src k →
      ∃ ρ', Run (lowerModule M) code q c k (ρ, fr, g) (ρ', fr', g') ∧ FrTy ps Γ fr' ∧ GTy M g'

theorem okSV_step {M : Core.Module} {ps : List (String × ITy)} {Γ : Map String Sh} {rs : Sh} {il : Bool} {s : Stmt}
    (h : okSV M ps Γ rs il s = true) :
    StmtStep (fun e => okEV M ps Γ e = true) (fun il s => okSV M ps Γ rs il s = true) il s := by
  cases s with
  | skip => trivial
  | decl x ty i =>
    cases i with
    | none => trivial
    | some e => simp only [okSV, Bool.and_eq_true] at h; exact h.2
  | expr e => exact h
  | forL i c n b =>
    simp only [okSV, Bool.and_eq_true] at h
    obtain ⟨⟨⟨h1, h2⟩, h3⟩, h4⟩ := h
    exact ⟨h1, fun e he => by subst he; exact h2, fun e he => by subst he; exact h3, h4,
      by simp only [okSV, h2, h3, h4, Bool.and_self]⟩
  | brk => exact h
  | cont => exact h
  | ret oe =>
    cases oe with
    | none => trivial
    | some e => simp only [okSV, Bool.and_eq_true] at h; exact h.2
  | _ => simpa only [okSV, StmtStep, Bool.and_eq_true, and_assoc] using h

/-- A declaration is of the shape declared for its name, and so is its initialiser. -/
theorem okSV_decl {M : Core.Module} {ps : List (String × ITy)} {Γ : Map String Sh} {rs : Sh} {il : Bool} {x : String}
    {ty : ITy} {i : Option Expr} (h : okSV M ps Γ rs il (.decl x ty i) = true) :
    (shape ty != .bad) = true ∧ Map.get Γ x = some (shape ty) ∧ ∀ e, i = some e → shape (Expr.ty e) = shape ty := by
  cases i with
  | none =>
    simp only [okSV, Bool.and_eq_true, beq_iff_eq] at h
    exact ⟨h.1, h.2, fun _ hh => nomatch hh⟩
  | some e =>
    simp only [okSV, Bool.and_eq_true, beq_iff_eq] at h
    exact ⟨h.1.1.1, h.1.1.2, fun _ hh => by cases hh; exact h.1.2⟩

def disc (M : Core.Module) (ps : List (String × ITy)) (Γ : Map String Sh) (rs : Sh) : Disc where
  E e := okEV M ps Γ e = true
  S il s := okSV M ps Γ rs il s = true
  Fr := FrTy ps Γ
  G := GTy M
  V e v := fits (shape (Expr.ty e)) v = true
  R v := fits rs v = true
  noPtr := fits_noPtr
  step := okSV_step
  decl h hf :=
    have hd := okSV_decl h
    hf.setLocal (fun s hs => by cases hd.2.1.symm.trans hs; exact createInstance_fits hd.1)
  init h ha hf :=
    have hd := okSV_decl h
    hf.setLocal (fun s hs => by cases hd.2.1.symm.trans hs; exact hd.2.2 _ rfl ▸ ha)
  retNone h := fits_slot_none h
  retSome h hv := by
    simp only [okSV, Bool.and_eq_true, beq_iff_eq] at h
    exact h.1 ▸ hv

def mdisc (M : Core.Module) : MDisc M where
  fn f := disc M f.params (declShapes f.body) (shape f.ret)
  G := GTy M
  fnG _ := rfl
  Fn f := okFnV M f = true
  Args name args := ∀ f, findFn M name = some f → ArgsFit f.params args
  Ret name v := ∀ f, findFn M name = some f → fits (shape f.ret) v = true
  body h := by
    simp only [okFnV, Bool.and_eq_true] at h
    exact h.1.2
  entry hf hargs := ⟨fun x v s hget _ => by simp at hget, hargs _ hf⟩
  ret hf hv := fun f' hf' => by cases hf.symm.trans hf'; exact hv
  fall {name f n _ _ _ _} hfn hf hx := fun f' hf' => by
    cases hf.symm.trans hf'
    simp only [okFnV, Bool.and_eq_true, Bool.or_eq_true] at hfn
    rcases hfn.2 with hs | har
    · exact fits_slot_none hs
    · exact absurd hx (alwaysRet_not_normal M f.body har n _ _ _ _)

theorem ESimV.toW {M : Core.Module} {n : Nat} (h : ESimV M n) (ps : List (String × ITy)) (Γ : Map String Sh) (rs : Sh) :
    ESimW M (disc M ps Γ rs) n := by
  intro code e fr g v fr' g' he hok hf hg k c o k' q ρ hl hat
  obtain ⟨ρ', r, e1, t1, hf1, hg1⟩ := h he hok hf hg ρ hl hat
  exact ⟨ρ', r.1, e1, t1, hf1, hg1⟩

theorem argsMatch_fit : ∀ (as : Args) (ps : List (String × ITy)) (vs : List Val), argsMatch as ps = true →
    FitsArgs as vs → ArgsFit ps vs
  | .nil, _, [], _, _ => by intro i p a _ ha; simp at ha
  | .nil, _, _ :: _, _, hf => by cases hf
  | .cons e rest, _, [], _, hf => by cases hf
  | .cons e rest, [], v :: vs, _, _ => by intro i p a hp; simp at hp
  | .cons e rest, p :: ps, v :: vs, hm, hf => by
    simp only [argsMatch, Bool.and_eq_true, beq_iff_eq] at hm
    intro i p' a hp ha
    cases i with
    | zero =>
      simp only [List.getElem?_cons_zero, Option.some.injEq] at hp ha
      subst hp; subst ha; rw [← hm.1]; exact hf.1
    | succ j =>
      simp only [List.getElem?_cons_succ] at hp ha
      exact argsMatch_fit rest ps vs hm.2 hf.2 j p' a hp ha

theorem okIdx_vec {ty bt it : ITy} (h : okIdx .vec ty bt it = true) :
    ∃ n, shape bt = .vec n ∧ shape ty = .atom ∧ it.isScalar = true := by
  unfold okIdx at h
  cases hb : shape bt <;> cases ht : shape ty <;> simp [hb, ht] at h
  exact ⟨_, rfl, rfl, h⟩

theorem okIdx_mat {ty bt it : ITy} (h : okIdx .mat ty bt it = true) :
    ∃ r c, shape bt = .mat r c ∧ shape ty = .vec c ∧ it.isScalar = true := by
  unfold okIdx at h
  cases hb : shape bt <;> cases ht : shape ty <;> simp [hb, ht] at h
  obtain ⟨rfl, h2⟩ := h
  exact ⟨_, _, rfl, rfl, h2⟩

theorem fits_shape_atom {ty : ITy} {v : Val} (hs : ty.isScalar = true) (h : isAtom v = true) :
    fits (shape ty) v = true := by
  rw [isScalar_shape hs, fits_atom]; exact h

end Vec
end Nsl
