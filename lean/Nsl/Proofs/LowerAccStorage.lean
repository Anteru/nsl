import Nsl.Proofs.LowerAcc
import Nsl.Proofs.StorShape
/-!
# The lowering of the storage core produces forwardable code

Storage-core code satisfies `AccPS Γ V` for the rank environment `Γ` of the function: the root of an access chain is
a local of positive rank (`placeRank`), a scalar assignment target is a local of rank 0 (`varOKS`), and so is the
variable of an initialising declaration.  `NoShadow` is therefore still the only extra hypothesis for `forwardOK`.
-/
namespace Nsl
namespace Lower
open Core Opt WF

theorem varOKS_store {Γ : Env} {sc : Scope} {key : VarKey} (h : varOKS Γ sc key = true) :
    ∀ x, sc = .local → key = .name x → Γ x = 0 := by
  rintro x rfl rfl
  simpa [varOKS] using h

theorem isPlace_of_isLhs {e : Expr} (h : isLhs e = true) : isPlace e = true := by
  rcases isLhs_inv h with ⟨_, _, _, rfl⟩ | ⟨_, _, _, rfl⟩ | ⟨_, _, _, rfl⟩ <;> rfl

/-- An expression is lowered for its value (`okES`) or as an access chain (`placeRank`).  For the node forms outside
the core `okES`, `placeRank` and `isLhs` evaluate to `false` / `none`, and the hypothesis is refuted by `nomatch`. -/
theorem accS_rules (Γ : Env) (V : List (Scope × VarKey)) : Rules
    (fun e _ c _ _ => okES Γ e = true ∨ (∃ d, placeRank Γ e = some d) → (∀ a ∈ accE e, a ∈ V) → All (AccPS Γ V) c)
    (fun as _ c _ _ => okArgsS Γ as = true → (∀ a ∈ accArgs as, a ∈ V) → All (AccPS Γ V) c)
    (fun e _ _ c _ => isLhs e = true → okES Γ e = true → (∀ a ∈ accE e, a ∈ V) → All (AccPS Γ V) c) where
  litI _ _ _ _ := .nil
  litF _ _ _ _ := .nil
  var sc key ty k h hV := by
    refine .one ⟨hV _ (List.mem_singleton_self _), fun hag => ?_⟩
    rcases h with hok | ⟨d, hp⟩
    · rw [isAggregate_of_scalar' (okES_var_inv hok).1] at hag
      cases hag
    · obtain ⟨x, hsc, hkey, _, hx, hd⟩ := placeRank_var_inv hp
      exact ⟨x, hsc, hkey, hx ▸ hd⟩
  bin il ir ht h hV := by
    obtain hok | ⟨_, hp⟩ := h
    · simp only [okES, Bool.and_eq_true] at hok
      simp only [accE, List.forall_mem_append] at hV
      exact ((il (.inl hok.1.2) hV.1).append (ir (.inl hok.2) hV.2)).append 
        (.of_binTail (fun _ _ _ _ _ => trivial) (fun _ _ _ _ => trivial) (fun _ _ _ => trivial) ht)
    · exact nomatch hp
  cast ie h hV := by
    obtain hok | ⟨_, hp⟩ := h
    · simp only [okES, Bool.and_eq_true] at hok
      exact (ie (.inl hok.2) hV).snoc (by trivial)
    · exact nomatch hp
  assign ie is h hV := by
    obtain hok | ⟨_, hp⟩ := h
    · simp only [okES, Bool.and_eq_true] at hok
      simp only [accE, List.forall_mem_append] at hV
      exact (ie (.inl hok.2) hV.2).append (is hok.1.1 hok.1.2 hV.1)
    · exact nomatch hp
  affix ie is h hV := by
    obtain hok | ⟨_, hp⟩ := h
    · simp only [okES, Bool.and_eq_true] at hok
      exact ((ie (.inl hok.2) hV).snoc (by trivial)).append (is hok.1 hok.2 hV)
    · exact nomatch hp
  call ia h hV := by
    obtain hok | ⟨_, hp⟩ := h
    · exact (ia hok hV).snoc (by trivial)
    · exact nomatch hp
  index ib ii h hV := by
    simp only [accE, List.forall_mem_append] at hV
    obtain hok | ⟨_, hp⟩ := h
    · obtain ⟨_, _, hb, hi⟩ := okES_index_inv hok
      exact ((ib (.inr ⟨_, hb⟩) hV.1).append (ii (.inl hi) hV.2)).snoc (forall_idxLoad trivial trivial trivial _)
    · obtain ⟨_, hb, _, hi, _⟩ := placeRank_index_inv hp
      exact ((ib (.inr ⟨_, hb⟩) hV.1).append (ii (.inl hi) hV.2)).snoc (forall_idxLoad trivial trivial trivial _)
  member ib h hV := by
    obtain hok | ⟨_, hp⟩ := h
    · exact (ib (.inr ⟨_, (okES_member_inv hok).2⟩) hV).snoc (by trivial)
    · exact nomatch hp
  swizzle _ h _ := by
    obtain hok | ⟨_, hp⟩ := h
    · exact nomatch hok
    · exact nomatch hp
  construct _ h _ := by
    obtain hok | ⟨_, hp⟩ := h
    · exact nomatch hok
    · exact nomatch hp
  nil _ _ _ := .nil
  cons ie ir hok hV := by
    simp only [okArgsS, Bool.and_eq_true] at hok
    simp only [accArgs, List.forall_mem_append] at hV
    exact (ie (.inl hok.1) hV.1).append (ir hok.2 hV.2)
  storeVar sc key ty v k _ hok hV := .one ⟨hV _ (List.mem_singleton_self _), varOKS_store (okES_var_inv hok).2⟩
  storeArr ib ii _ hok hV := by
    simp only [accE, List.forall_mem_append] at hV
    obtain ⟨_, _, hb, hi⟩ := okES_index_inv hok
    exact ((ib (.inr ⟨_, hb⟩) hV.1).append (ii (.inl hi) hV.2)).snoc (by trivial)
  storeVec _ _ _ hl := nomatch hl
  storeMat _ _ _ hl := nomatch hl
  storeMem ib _ hok hV := (ib (.inr ⟨_, (okES_member_inv hok).2⟩) hV).snoc (by trivial)
  storeSwz _ _ hl := nomatch hl
  storeOther hp _ hl := nomatch hp.symm.trans (isPlace_of_isLhs hl)

theorem lowerArgs_accS (Γ : Env) (V : List (Scope × VarKey)) : ∀ (as : Args), okArgsS Γ as = true →
    (∀ a ∈ accArgs as, a ∈ V) → ∀ (k : Nat) (c : List Instr) (os : List Opd) (k' : Nat),
    lowerArgs as k = (c, os, k') → AccInS Γ V c :=
  fun _ hok hV _ _ _ _ h => (accS_rules Γ V).ofArgs h hok hV

theorem lowerP_acc (Γ : Env) (V : List (Scope × VarKey)) : ∀ (e : Expr) (d : Nat), placeRank Γ e = some d →
    (∀ a ∈ accE e, a ∈ V) → ∀ (k : Nat) (c : List Instr) (o : Opd) (k' : Nat),
    lowerE e k = (c, o, k') → AccInS Γ V c :=
  fun _ d hp hV _ _ _ _ h => (accS_rules Γ V).ofE h (.inr ⟨d, hp⟩) hV

theorem lowerStore_accS (Γ : Env) (V : List (Scope × VarKey)) : ∀ (e : Expr), isLhs e = true → okES Γ e = true →
    (∀ a ∈ accE e, a ∈ V) → ∀ (v : Opd) (k : Nat) (cs : List Instr) (k' : Nat),
    lowerStore e v k = (cs, k') → AccInS Γ V cs :=
  fun _ hl hok hV _ _ _ _ h => (accS_rules Γ V).ofStore h hl hok hV

theorem lowerOptE_accS (Γ : Env) (V : List (Scope × VarKey)) {oe : Option Expr} (hok : okOptES Γ oe = true)
    (hV : ∀ a ∈ accOptE oe, a ∈ V) {k : Nat} {c : List Instr} {o : Option Opd} {k' : Nat}
    (h : lowerOptE oe k = (c, o, k')) : All (AccPS Γ V) c :=
  .of_lowerOptE h fun e _ he hc => by subst he; exact (accS_rules Γ V).ofE hc (.inl hok) hV

/-- The `store` of an initialising declaration writes a local that `okSS` gives rank 0. -/
theorem accS_srules (Γ : Env) (V : List (Scope × VarKey)) : SRules
    (fun _ _ s _ c _ => ∀ il, okSS Γ il s = true → (∀ a ∈ accS s, a ∈ V) → All (AccPS Γ V) c) where
  skip _ _ _ _ _ _ := .nil
  declNone _ _ _ _ _ _ _ _ := .one trivial
  declInit _ _ _ _ := fun he _ hok hV => by
    simp only [okSS, Bool.and_eq_true, beq_iff_eq] at hok
    simp only [accS, List.forall_mem_cons] at hV
    refine ((All.one (by trivial)).append ((accS_rules Γ V).ofE he (.inl hok.2) hV.2)).snoc
      ⟨hV.1, ?_⟩
    rintro x - ⟨⟩
    exact hok.1.2
  expr _ _ := fun he _ hok hV => (accS_rules Γ V).ofE he (.inl hok) hV
  seq ia ib il hok hV := by
    simp only [okSS, Bool.and_eq_true] at hok
    simp only [accS, List.forall_mem_append] at hV
    exact (ia il hok.1 hV.1).append (ib il hok.2 hV.2)
  ite1 hc it il hok hV := by
    simp only [okSS, Bool.and_eq_true] at hok
    simp only [accS, List.forall_mem_append] at hV
    exact ((((accS_rules Γ V).ofE hc (.inl hok.1) hV.1).append (.cons (by trivial) (.one (by trivial)))).append
      (it il hok.2 hV.2)).snoc (by trivial)
  ite2 hc it ie il hok hV := by
    simp only [okSS, Bool.and_eq_true] at hok
    simp only [accS, List.forall_mem_append] at hV
    exact ((((((accS_rules Γ V).ofE hc (.inl hok.1.1) hV.1.1).append (.cons (by trivial) (.one (by trivial)))).append
      (it il hok.1.2 hV.1.2)).append (.cons (by trivial) (.one (by trivial)))).append
      (ie il hok.2 hV.2)).snoc (by trivial)
  whileL hc ib _ hok hV := by
    simp only [okSS, Bool.and_eq_true] at hok
    simp only [accS, List.forall_mem_append] at hV
    exact ((((All.one (by trivial)).append ((accS_rules Γ V).ofE hc (.inl hok.1) hV.1)).append
      (.cons (by trivial) (.one (by trivial)))).append (ib true hok.2 hV.2)).append
      (.cons (by trivial) (.one (by trivial)))
  doL ib hc _ hok hV := by
    simp only [okSS, Bool.and_eq_true] at hok
    simp only [accS, List.forall_mem_append] at hV
    exact ((((All.one (by trivial)).append (ib true hok.1 hV.1)).snoc (by trivial)).append
      ((accS_rules Γ V).ofE hc (.inl hok.2) hV.2)).append (.cons (by trivial) (.one (by trivial)))
  forL ii hc ib hn il hok hV := by
    simp only [okSS, Bool.and_eq_true] at hok
    simp only [accS, List.forall_mem_append] at hV
    exact ((((((((ii il hok.1.1.1 hV.1.1.1).snoc (by trivial)).append
      (lowerOptE_accS Γ V hok.1.1.2 hV.1.1.2 hc)).append (.cons (forall_forBranch trivial (fun _ => trivial) _) (.one (by trivial)))).append
      (ib true hok.2 hV.2)).snoc (by trivial)).append (lowerOptE_accS Γ V hok.1.2 hV.1.2 hn)).append
      (.cons (by trivial) (.one (by trivial))))
  brk _ _ _ _ _ _ := .one trivial
  cont _ _ _ _ _ _ := .one trivial
  retNone _ _ _ _ _ _ := .one trivial
  retSome _ _ := fun he _ hok hV => ((accS_rules Γ V).ofE he (.inl hok) hV).snoc (by trivial)

theorem lowerFn_accS (f : FnDef) (h : okFnS f = true) : AccInS (envOf f.body) (accS f.body) (lowerFn f).code :=
  (accS_srules _ _).lowerS f.body none none 0 false h fun _ ha => ha

theorem lowerFn_forwardOKS (f : FnDef) (h : okFnS f = true) (hs : noShadowFn f = true) :
    forwardOK none (pass ccDecide (lowerFn f).code) = true :=
  forwardOK_of_accS hs _ none (fun _ h => nomatch h) (All.pass (AccPS_substInstr _ _) (lowerFn_accS f h) ccDecide)

theorem lowerFn_forwardOKS_raw (f : FnDef) (h : okFnS f = true) (hs : noShadowFn f = true) :
    forwardOK none (lowerFn f).code = true :=
  forwardOK_of_accS hs _ none (fun _ h => nomatch h) (lowerFn_accS f h)

theorem lowerFn_optOKS (f : FnDef) (h : okFnS f = true) (hs : noShadowFn f = true) : optOK (lowerFn f) = true :=
  lowerFn_optOK_of_forwardOK f (lowerFn_forwardOKS f h hs)

end Lower
end Nsl
