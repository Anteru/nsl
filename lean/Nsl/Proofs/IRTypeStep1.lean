import Nsl.Proofs.IRTypeInv
import Nsl.Proofs.InstrViews
/-!
# IR typing: one instruction preserves the invariant — control flow, variables, calls, scalar/vector computations

The statement for an instruction form is about the expression `stepI` evaluates for that form, a chain of `liftE`;
`post_ok` and `post_bind` consume one link at a time.
-/
namespace Nsl
namespace IRType
open VM

/-- the invariant on arrival at a block label by a jump -/
def JumpOK (cx : Ctx) (pc : Nat) (fr : Frame) (g : Globals) : Prop :=
  ∃ l d, cx.code[pc]? = some (.label l) ∧ Map.get cx.D l = some d ∧ VarsOK cx d fr g

def ResOK (strict : Bool) (P : Program) (ret : ITy) : Res → Prop
  | .done v g' _ => valOK ret v = true ∧ GlobalsOK P.globals g'
  | .fail e => okErr strict e

def OutPost (cx : Ctx) (N : Nat → Frame → Globals → Prop) : StepOut → Prop
  | .next pc' fr' g' => N pc' fr' g'
  | .ret v g' as => ResOK cx.strict cx.P cx.ret (.done v g' as)
  | .fail e => ResOK cx.strict cx.P cx.ret (.fail e)

theorem OutPost.mono {cx : Ctx} {N N' : Nat → Frame → Globals → Prop} {out : StepOut} (h : OutPost cx N out)
    (hN : ∀ pc fr g, N pc fr g → N' pc fr g) : OutPost cx N' out := by
  cases out with
  | next pc fr g => exact hN pc fr g h
  | _ => exact h

def StepPost (cx : Ctx) (st : St) (ins : Instr) (pc : Nat) : StepOut → Prop :=
  OutPost cx fun pc' fr' g' =>
    (pc' = pc + 1 ∧ isTerm ins = false ∧ InvBody cx (step cx st ins) fr' g') ∨ JumpOK cx pc' fr' g'

def CallSpec (cx : Ctx) (callf : String → List Val → Globals → Res) : Prop :=
  ∀ name args g callee, cx.P.find name = some callee → valsOK (callee.params.map (·.2)) args = true →
    GlobalsOK cx.P.globals g → ResOK cx.strict cx.P callee.ret (callf name args g)

theorem liftE_ok {α : Type} (a : α) (k : α → StepOut) : liftE (.ok a) k = k a := rfl
theorem liftE_err {α : Type} (e : Err) (k : α → StepOut) : liftE (.error e) k = .fail e := rfl

theorem liftE_bind {α β : Type} (x : Except Err α) (f : α → Except Err β) (k : β → StepOut) :
    liftE (x >>= f) k = liftE x fun a => liftE (f a) k := by
  cases x <;> rfl

theorem mkRI_agg {ty : ITy} (h : ty.isAggregate = true) (root : Root) : mkRI ty root = .ptr ty root := by
  rw [mkRI, h]; rfl

theorem mkRI_val {ty : ITy} (h : ty.isAggregate = false) (root : Root) : mkRI ty root = .val ty := by
  rw [mkRI, h]; rfl

section
variable {cx : Ctx} {callf : String → List Val → Globals → Res} {pc : Nat} {st : St} {fr : Frame} {g : Globals}
  {ins : Instr}

theorem post_ok {α : Type} {x : Except Err α} {a : α} {K : α → StepOut} (hx : x = .ok a)
    (hK : StepPost cx st ins pc (K a)) : StepPost cx st ins pc (liftE x K) := by
  rw [hx]; exact hK

theorem post_bind {α : Type} {P : α → Prop} {x : Except Err α} {K : α → StepOut} (hx : Sound P (okErr cx.strict) x)
    (hK : ∀ a, P a → StepPost cx st ins pc (K a)) : StepPost cx st ins pc (liftE x K) := by
  cases x with
  | ok a => exact hK a hx
  | error e => exact hx

theorem post_def {d : Nat} {ri : RI} {x : Except Err Val} (hinv : InvBody cx st fr g)
    (hstep : step cx st ins = setReg st d ri) (hnt : isTerm ins = false)
    (hx : Sound (RegOK cx st.locs · ri) (okErr cx.strict) x) :
    StepPost cx st ins pc (liftE x fun z => .next (pc + 1) (VM.setReg fr d z) g) :=
  post_bind hx fun _ hz => .inl ⟨rfl, hnt, hstep ▸ inv_set hinv d hz⟩

/-- a loaded aggregate is aliased, anything else copied -/
theorem load_post {d : Nat} {ty t T0 : ITy} {root : Root} {p : List Key} {x : Val} (hinv : InvBody cx st fr g)
    (hstep : step cx st ins = setReg st d (mkRI ty root)) (hnt : isTerm ins = false)
    (hT0 : rootTy cx st.locs root = some T0) (hp : tyAt T0 p = some t) (hx : valOK t x = true)
    (hty : tyBeq ty t = true) :
    StepPost cx st ins pc
      (if (ty.isAggregate && isAggVal x) = true then .next (pc + 1) (VM.setReg fr d (.ptr root p)) g
       else .next (pc + 1) (VM.setReg fr d x) g) := by
  cases tyBeq_eq _ _ hty
  cases hagg : ty.isAggregate with
  | true =>
    rw [valOK_agg hagg hx]
    exact .inl ⟨rfl, hnt, hstep ▸ inv_set hinv d (mkRI_agg hagg root ▸ ⟨p, T0, rfl, hT0, hp⟩)⟩
  | false => exact .inl ⟨rfl, hnt, hstep ▸ inv_set hinv d (mkRI_val hagg root ▸ hx)⟩

theorem write_post {T0 : ITy} {root : Root} {w : Val} (hinv : InvBody cx st fr g) (hstep : step cx st ins = st)
    (hnt : isTerm ins = false) (hT0 : rootTy cx st.locs root = some T0) (hw : valOK T0 w = true) :
    StepPost cx st ins pc (liftE (writeRoot fr g root w) fun (fr', g') => .next (pc + 1) fr' g') := by
  obtain ⟨fr', g', hwr, hv', hregs⟩ := vars_write hinv.vars hT0 hw
  rw [hwr]
  refine .inl ⟨rfl, hnt, ?_⟩
  rw [hstep]
  exact ⟨hinv.live, regs_frame hinv.regs hregs, hv'⟩

theorem src_post {src : Opd} {t : ITy} {K : Val → StepOut} (hinv : InvBody cx st fr g) (hsrc : srcOK st src t = true)
    (hK : ∀ v, valOK t v = true → StepPost cx st ins pc (K v)) :
    StepPost cx st ins pc (liftE (evalOpd fr src) fun v =>
      match v with
      | .ptr _ _ => .fail (.unsupported "whole-aggregate-assignment")
      | v => K v) := by
  rcases srcOK_eval hinv.regs hsrc with ⟨r, p, he⟩ | ⟨v, he, hvo⟩
  · rw [he]; exact (noInt_unsupported _).ok
  · rw [he]
    cases v with
    | ptr r p => exact absurd rfl (valOK_ne_ptr hvo r p)
    | _ => exact hK _ hvo

theorem vars_sub {d locs : Locs} (hsub : locsSub d locs = true) (hv : VarsOK cx locs fr g) : VarsOK cx d fr g :=
  ⟨LocalsOK_iff_mapRel.2 (MapRel.sub (LocalsOK_iff_mapRel.1 hv.locals) fun _ _ h => locsSub_get hsub h), hv.args,
    hv.globals⟩

theorem inv_label {l : Nat} {d : Locs} (hd : Map.get cx.D l = some d) (hv : VarsOK cx d fr g) (st0 : St) :
    InvBody cx (step cx st0 (.label l)) fr g := by
  dsimp only [step]
  rw [hd]
  exact ⟨rfl, MapRel.nil, hv⟩

theorem step_label {l : Nat} (hinv : InvBody cx st fr g) (hok : ruleOK cx st (.label l) = true) :
    StepPost cx st (.label l) pc (.next (pc + 1) fr g) := by
  dsimp only [ruleOK] at hok
  split at hok
  · rename_i d hd
    exact .inl ⟨rfl, rfl, inv_label hd (vars_sub hok hinv.vars) st⟩
  · cases hok

theorem step_label_jump {l : Nat} {d : Locs} (hc : cx.code[pc]? = some (.label l)) (hd : Map.get cx.D l = some d)
    (hv : VarsOK cx d fr g) (st0 : St) :
    stepI callf cx.code pc fr g = .next (pc + 1) fr g ∧ InvBody cx (step cx st0 (.label l)) fr g :=
  ⟨by simp only [stepI, hc], inv_label hd hv st0⟩

theorem rootOfKey_rootOf {sc : Scope} {var : VarKey} {root : Root} (h : rootOfKey sc var = some root) :
    rootOf sc var = .ok root := by
  cases sc <;> cases var <;> cases h <;> rfl

theorem step_load {d : Nat} {ty : ITy} {sc : Scope} {var : VarKey} (hinv : InvBody cx st fr g)
    (hok : ruleOK cx st (.load d ty sc var) = true) :
    StepPost cx st (.load d ty sc var) pc
      (liftE (rootOf sc var) fun root => liftE (readRoot fr g root) fun v =>
        if ty.isAggregate && isAggVal v then .next (pc + 1) (VM.setReg fr d (.ptr root [])) g
        else .next (pc + 1) (VM.setReg fr d v) g) := by
  dsimp only [ruleOK] at hok
  split at hok
  · rename_i root hr
    split at hok
    · rename_i t hT
      obtain ⟨w, hw, hwo⟩ := vars_read hinv.vars hT
      have hs : step cx st (.load d ty sc var) = setReg st d (mkRI ty root) := by dsimp only [step]; rw [hr]
      exact post_ok (rootOfKey_rootOf hr) (post_ok hw (load_post hinv hs rfl hT rfl hwo hok))
    · cases hok
  · cases hok

theorem step_store {sc : Scope} {var : VarKey} {src : Opd} (hinv : InvBody cx st fr g)
    (hok : ruleOK cx st (.store sc var src) = true) :
    StepPost cx st (.store sc var src) pc
      (liftE (rootOf sc var) fun root => liftE (evalOpd fr src) fun v =>
        match v with
        | .ptr _ _ => .fail (.unsupported "whole-aggregate-assignment")
        | v => liftE (writeRoot fr g root v) fun (fr', g') => .next (pc + 1) fr' g') := by
  dsimp only [ruleOK] at hok
  split at hok
  · rename_i root hr
    split at hok
    · rename_i t hT
      exact post_ok (rootOfKey_rootOf hr) (src_post hinv hok fun v hv => write_post hinv rfl rfl hT hv)
    · cases hok
  · cases hok

theorem regOK_kill {locs : Locs} {name : String} {ty : ITy} {v : Val} {ri : RI} (h : RegOK cx locs v ri) :
    RegOK cx (Map.set locs name ty) v (killRI name ri) := by
  cases ri with
  | val t => exact h
  | stale => trivial
  | ptr t root =>
    rw [killRI]
    split
    · trivial
    · rename_i hroot
      obtain ⟨p, T0, hv, hT0, hp⟩ := h
      refine ⟨p, T0, hv, ?_, hp⟩
      cases root with
      | loc n => exact (Map.get_set_ne _ _ _ _ fun e => hroot (by rw [e])).trans hT0
      | arg i => exact hT0
      | glob n => exact hT0

/-- A declaration adds the local with its default instance; aliases into an earlier local of that name die. -/
theorem step_newVar {d : Nat} {ty : ITy} {name : String} (hinv : InvBody cx st fr g)
    (hok : ruleOK cx st (.newVar d ty name) = true) :
    StepPost cx st (.newVar d ty name) pc
      (if ty.isAggregate then
        .next (pc + 1) (VM.setReg { fr with locals := Map.set fr.locals name (createInstance ty) } d (.ptr (.loc name) [])) g
      else
        .next (pc + 1) (VM.setReg { fr with locals := Map.set fr.locals name (createInstance ty) } d (createInstance ty)) g) := by
  have hci := createInstance_ok ty hok
  have hT : rootTy cx (Map.set st.locs name ty) (.loc name) = some ty := Map.get_set_eq _ _ _
  -- whatever the register gets, as long as it fits `mkRI ty (.loc name)`
  have hpost : ∀ v, RegOK cx (Map.set st.locs name ty) v (mkRI ty (.loc name)) →
      InvBody cx (step cx st (.newVar d ty name))
        (VM.setReg { fr with locals := Map.set fr.locals name (createInstance ty) } d v) g := fun v hv =>
    ⟨hinv.live, MapRel.set (MapRel.map_left hinv.regs fun _ _ h => regOK_kill h) hv,
      ⟨LocalsOK_iff_mapRel.2 (MapRel.set (LocalsOK_iff_mapRel.1 hinv.vars.locals) hci), hinv.vars.args,
        hinv.vars.globals⟩⟩
  cases hagg : ty.isAggregate with
  | true => exact .inl ⟨rfl, rfl, hpost _ (mkRI_agg hagg _ ▸ ⟨[], ty, rfl, hT, rfl⟩)⟩
  | false => exact .inl ⟨rfl, rfl, hpost _ (mkRI_val hagg _ ▸ hci)⟩

theorem step_bin {d : Nat} {op : BinOp} {ty : ITy} {a b : Opd} (hinv : InvBody cx st fr g)
    (hok : ruleOK cx st (.bin d op ty a b) = true) :
    StepPost cx st (.bin d op ty a b) pc
      (liftE (evalVal fr g a) fun x => liftE (evalVal fr g b) fun y =>
        liftE (binExec op ty x y) fun z => .next (pc + 1) (VM.setReg fr d z) g) := by
  dsimp only [ruleOK] at hok
  split at hok
  · rename_i ta tb ha hb
    obtain ⟨x, hx, hxo⟩ := opdTy_eval hinv.regs hinv.vars ha
    obtain ⟨y, hy, hyo⟩ := opdTy_eval hinv.regs hinv.vars hb
    exact post_ok hx (post_ok hy (post_def hinv rfl rfl ((binExec_sound hok hxo hyo).mono_err fun _ h => h.ok)))
  · cases hok

theorem step_cast {d : Nat} {ty : ITy} {a : Opd} (hinv : InvBody cx st fr g)
    (hok : ruleOK cx st (.cast d ty a) = true) :
    StepPost cx st (.cast d ty a) pc
      (liftE (evalVal fr g a) fun x => liftE (castExec ty x) fun z => .next (pc + 1) (VM.setReg fr d z) g) := by
  dsimp only [ruleOK] at hok
  split at hok
  · rename_i ta ha
    obtain ⟨x, hx, hxo⟩ := opdTy_eval hinv.regs hinv.vars ha
    exact post_ok hx (post_def hinv rfl rfl (castExec_sound hok hxo))
  · cases hok

theorem jump_post {l : Nat} (hinv : InvBody cx st fr g) (ht : targetOK cx st l = true) :
    StepPost cx st ins pc (jump cx.code l fr g) := by
  rw [targetOK, Bool.and_eq_true] at ht
  obtain ⟨⟨p, hp⟩, hd⟩ := ht.imp Option.isSome_iff_exists.1 id
  split at hd
  · rename_i d hD
    rw [jump, hp]
    exact .inr ⟨l, d, Opt.labelPos_some hp, hD, vars_sub hd hinv.vars⟩
  · cases hd

theorem step_br {l : Nat} (hinv : InvBody cx st fr g) (hok : ruleOK cx st (.br l) = true) :
    StepPost cx st (.br l) pc (jump cx.code l fr g) :=
  jump_post hinv hok

theorem step_brc {p : Opd} {t f : Nat} (hinv : InvBody cx st fr g) (hok : ruleOK cx st (.brc p t f) = true) :
    StepPost cx st (.brc p t f) pc
      (liftE (evalVal fr g p) fun v => if v.truthy then jump cx.code t fr g else jump cx.code f fr g) := by
  have hok : ((opdTy st p).isSome && targetOK cx st t && targetOK cx st f) = true := hok
  rw [Bool.and_eq_true, Bool.and_eq_true] at hok
  obtain ⟨tp, hpt⟩ := Option.isSome_iff_exists.1 hok.1.1
  obtain ⟨v, hv, _⟩ := opdTy_eval hinv.regs hinv.vars hpt
  refine post_ok hv ?_
  split
  · exact jump_post hinv hok.1.2
  · exact jump_post hinv hok.2

theorem step_ret_none (hinv : InvBody cx st fr g) (hok : ruleOK cx st (.ret none) = true) :
    StepPost cx st (.ret none) pc (.ret .none g fr.args) :=
  ⟨tyBeq_eq _ _ hok ▸ (valOK_void _).2 rfl, hinv.vars.globals⟩

theorem step_ret_some {o : Opd} (hinv : InvBody cx st fr g) (hok : ruleOK cx st (.ret (some o)) = true) :
    StepPost cx st (.ret (some o)) pc (liftE (evalVal fr g o) fun v => .ret v g fr.args) := by
  obtain ⟨v, hv, hvo⟩ := fits_eval hinv.regs hinv.vars hok
  exact post_ok hv ⟨hvo, hinv.vars.globals⟩

theorem step_call (hcall : CallSpec cx callf) {d : Nat} {ty : ITy} {fn : String} {args : List Opd}
    (hinv : InvBody cx st fr g) (hok : ruleOK cx st (.call d ty fn args) = true) :
    StepPost cx st (.call d ty fn args) pc
      (liftE (evalVals fr g args) fun vs =>
        match callf fn vs g with
        | .done v g' _ => .next (pc + 1) (VM.setReg fr d v) g'
        | .fail e => .fail e) := by
  dsimp only [ruleOK] at hok
  split at hok
  · rename_i callee ts hf hts
    rw [Bool.and_eq_true] at hok
    obtain ⟨vs, hvs, hvso⟩ := opdTys_eval hinv.regs hinv.vars hts
    have hspec := hcall fn vs g callee hf (valsOK_compat hok.1 hvso) hinv.vars.globals
    refine post_ok hvs ?_
    generalize callf fn vs g = r at hspec
    cases r with
    | fail e => exact hspec
    | done v g' as =>
      exact .inl ⟨rfl, rfl, hinv.live, regs_set hinv.regs d (compat_valOK hok.2 hspec.1),
        ⟨hinv.vars.locals, hinv.vars.args, hspec.2⟩⟩
  · cases hok

end

end IRType
end Nsl
