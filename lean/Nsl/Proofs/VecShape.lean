import Nsl.Proofs.VecVals
import Nsl.Proofs.LowerRules
/-!
# What the vector simulation needs of single steps and of the shape of lowered code

One `stepI` equation per vector opcode under evaluated operands; the operand of a lowered expression lies below the
next register number; a lowered binary node is the code of its operands followed by `binTail`; a body that always
returns never ends normally.
-/
namespace Nsl
namespace Vec
open Core VM CoreSem Lower Sim

variable {cf : String → List Val → Globals → Res} {code : List Instr} {pc : Nat} {fr : Frame} {g : Globals}

theorem step_vecGet {dst : Nat} {ty : ITy} {v idx : Opd} {a i x : Val} {k : Nat}
    (hc : code[pc]? = some (.vecGet dst ty v idx))
    (ha : evalOpd fr v = .ok a) (hpa : Val.isPtr a = false) (hi : evalOpd fr idx = .ok i) (hpi : Val.isPtr i = false)
    (hk : indexOf a i = .ok k) (hx : getKey a (.idx k) = .ok x) :
    stepI cf code pc fr g = .next (pc + 1) (setReg fr dst x) g := by
  simp [stepI, hc, liftE, evalVal_of_noPtr ha hpa, evalVal_of_noPtr hi hpi, hk, hx]

theorem step_matGet {dst : Nat} {ty : ITy} {v idx : Opd} {a i x : Val} {k : Nat}
    (hc : code[pc]? = some (.matGet dst ty v idx))
    (ha : evalOpd fr v = .ok a) (hpa : Val.isPtr a = false) (hi : evalOpd fr idx = .ok i) (hpi : Val.isPtr i = false)
    (hk : indexOf a i = .ok k) (hx : getKey a (.idx k) = .ok x) :
    stepI cf code pc fr g = .next (pc + 1) (setReg fr dst x) g := by
  simp [stepI, hc, liftE, evalVal_of_noPtr ha hpa, evalVal_of_noPtr hi hpi, hk, hx]

theorem step_vecSet {dst : Nat} {ty : ITy} {v idx src : Opd} {a i x a' : Val} {k : Nat}
    (hc : code[pc]? = some (.vecSet dst ty v idx src))
    (ha : evalOpd fr v = .ok a) (hpa : Val.isPtr a = false) (hi : evalOpd fr idx = .ok i) (hpi : Val.isPtr i = false)
    (hs : evalOpd fr src = .ok x) (hps : Val.isPtr x = false)
    (hk : indexOf a i = .ok k) (hx : setKey a (.idx k) x = .ok a') :
    stepI cf code pc fr g = .next (pc + 1) (setReg fr dst a') g := by
  simp [stepI, hc, liftE, evalVal_of_noPtr ha hpa, evalVal_of_noPtr hi hpi, evalVal_of_noPtr hs hps, hk, hx]

theorem step_matSet {dst : Nat} {ty : ITy} {v idx src : Opd} {a i x a' : Val} {k : Nat}
    (hc : code[pc]? = some (.matSet dst ty v idx src))
    (ha : evalOpd fr v = .ok a) (hpa : Val.isPtr a = false) (hi : evalOpd fr idx = .ok i) (hpi : Val.isPtr i = false)
    (hs : evalOpd fr src = .ok x) (hps : Val.isPtr x = false)
    (hk : indexOf a i = .ok k) (hx : setKey a (.idx k) x = .ok a') :
    stepI cf code pc fr g = .next (pc + 1) (setReg fr dst a') g := by
  simp [stepI, hc, liftE, evalVal_of_noPtr ha hpa, evalVal_of_noPtr hi hpi, evalVal_of_noPtr hs hps, hk, hx]

theorem step_shuffle {dst : Nat} {ty : ITy} {a b : Opd} {idx : List Nat} {x y z : Val}
    (hc : code[pc]? = some (.shuffle dst ty a b idx))
    (ha : evalOpd fr a = .ok x) (hpa : Val.isPtr x = false) (hb : evalOpd fr b = .ok y) (hpb : Val.isPtr y = false)
    (hz : shuffleExec ty x y idx = .ok z) :
    stepI cf code pc fr g = .next (pc + 1) (setReg fr dst z) g := by
  simp [stepI, hc, liftE, evalVal_of_noPtr ha hpa, evalVal_of_noPtr hb hpb, hz]

theorem step_construct {dst : Nat} {ty : ITy} {os : List Opd} {vs : List Val} {z : Val}
    (hc : code[pc]? = some (.construct dst ty os)) (hvs : OpdsEval fr os vs) (hz : constructExec ty vs = .ok z) :
    stepI cf code pc fr g = .next (pc + 1) (setReg fr dst z) g := by
  simp [stepI, hc, liftE, evalVals_of_noPtr hvs, hz]

theorem lowerE_below (e : Expr) (k : Nat) (c : List Instr) (o : Opd) (k' : Nat) (h : lowerE e k = (c, o, k')) :
    OpdBelow o k' :=
  (lowerE_shapeG e k c o k' h).2.2

theorem lowerArgs_below : ∀ (as : Args) (k : Nat) (c : List Instr) (os : List Opd) (k' : Nat),
    lowerArgs as k = (c, os, k') → ∀ o ∈ os, OpdBelow o k' :=
  fun as k c os k' h => (lowerArgs_shapeG as k c os k' h).2.2

theorem lowerE_bin (op : BOp) (ty : ITy) (l r : Expr) (k : Nat) {cl cr : List Instr} {vl vr : Opd} {k1 k2 : Nat}
    (hel : lowerE l k = (cl, vl, k1)) (her : lowerE r k1 = (cr, vr, k2)) :
    lowerE (.bin op ty l r) k =
      (cl ++ cr ++ (binTail op ty (Expr.ty l) (Expr.ty r) vl vr k2).1,
        (binTail op ty (Expr.ty l) (Expr.ty r) vl vr k2).2.1, (binTail op ty (Expr.ty l) (Expr.ty r) vl vr k2).2.2) := by
  simp only [lowerE_bin_eq, hel, her]

theorem alwaysRet_not_normal (M : Core.Module) : ∀ (s : Stmt), alwaysRet s = true →
    ∀ (n : Nat) (fr : Frame) (g : Globals) (fr' : Frame) (g' : Globals), execS M n s fr g ≠ .normal fr' g' := by
  intro s
  induction s with
  | ret oe =>
    intro h n fr g fr' g'
    cases oe with
    | none => cases h
    | some e =>
      cases n with
      | zero => exact nofun
      | succ n =>
        -- every arm of `return e` is a failure or a `.ret`
        intro hx
        simp only [execS] at hx
        split at hx
        · cases hx
        · split at hx
          · split at hx <;> cases hx
          · cases hx
  | seq a b iha ihb =>
    intro h n fr g fr' g'
    simp only [alwaysRet, Bool.or_eq_true] at h
    cases n with
    | zero => exact nofun
    | succ n =>
      simp only [execS]
      cases hx : execS M n a fr g with
      | normal fr1 g1 =>
        rcases h with h | h
        · exact absurd hx (iha h n fr g fr1 g1)
        · exact ihb h n fr1 g1 fr' g'
      | brk fr1 g1 => exact nofun
      | cont fr1 g1 => exact nofun
      | ret v fr1 g1 => exact nofun
      | fail er => exact nofun
  | ite2 c t e iht ihe =>
    intro h n fr g fr' g'
    simp only [alwaysRet, Bool.and_eq_true] at h
    cases n with
    | zero => exact nofun
    | succ n =>
      simp only [execS]
      cases evalE M n c fr g with
      | fail er => exact nofun
      | val v fr1 g1 =>
        by_cases hv : v.truthy = true
        · simp only [hv, if_true]; exact iht h.1 n fr1 g1 fr' g'
        · simp only [hv, Bool.false_eq_true, if_false]; exact ihe h.2 n fr1 g1 fr' g'
  | skip => intro h; cases h
  | decl x ty i => intro h; cases h
  | expr e => intro h; cases h
  | ite1 c t _ => intro h; cases h
  | whileL c b _ => intro h; cases h
  | doL b c _ => intro h; cases h
  | forL i c nx b _ _ => intro h; cases h
  | brk => intro h; cases h
  | cont => intro h; cases h

end Vec
end Nsl
