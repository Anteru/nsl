import Nsl.Proofs.Opt
/-!
# Static facts about `scan` / `pass` used by the global simulation (C02)

Everything is phrased relative to a prefix `code.take pc` of the scanned code.  `scan_append` splits a scan at any
point; from it come the facts about the position of an instruction that the pass keeps (`kept_at`) or removes
(`removed_at`), and the position of a label in the optimised code (`pass_labelPos`).
-/
namespace Nsl
namespace Opt
open VM WF

/-- position in the optimised code that corresponds to `pc`: the number of kept instructions before `pc` -/
def kpos (decide : Option Instr → Instr → Subst → Option (Nat × Opd)) (code : List Instr) (pc : Nat) : Nat :=
  (scan decide none (code.take pc) []).1.length

/-- the substitution `scan` has built when it reaches `pc` -/
def substAt (decide : Option Instr → Instr → Subst → Option (Nat × Opd)) (code : List Instr) (pc : Nat) : Subst :=
  (scan decide none (code.take pc) []).2

/-- what the pass decides about the instruction `ins` at `pc` -/
def decideAt (decide : Option Instr → Instr → Subst → Option (Nat × Opd)) (code : List Instr) (pc : Nat)
    (ins : Instr) : Option (Nat × Opd) :=
  decide (lastOr none (code.take pc)) ins (substAt decide code pc)

section
variable {decide : Option Instr → Instr → Subst → Option (Nat × Opd)}

theorem scan_append : ∀ (l1 l2 : List Instr) (prev : Option Instr) (σ : Subst),
    scan decide prev (l1 ++ l2) σ =
      ((scan decide prev l1 σ).1 ++ (scan decide (lastOr prev l1) l2 (scan decide prev l1 σ).2).1,
        (scan decide (lastOr prev l1) l2 (scan decide prev l1 σ).2).2)
  | [], _, _, _ => rfl
  | ins :: rest, l2, prev, σ => by
    cases hd : decide prev ins σ with
    | some p => rw [List.cons_append, scan_cons_some hd, scan_cons_some hd, scan_append rest]; rfl
    | none => rw [List.cons_append, scan_cons_none hd, scan_cons_none hd, scan_append rest]; rfl

/-- `scan` changes the substitution only at references defined in the scanned code -/
theorem scan_get_other (hdef : DecideDef decide) : ∀ (code : List Instr) (prev : Option Instr) (σ : Subst) (r : Nat),
    r ∉ defs code → Map.get (scan decide prev code σ).2 r = Map.get σ r
  | [], _, _, _, _ => rfl
  | ins :: rest, prev, σ, r, hr => by
    rw [defs_cons, List.mem_append, not_or] at hr
    cases hd : decide prev ins σ with
    | some p =>
      obtain ⟨d, o⟩ := p
      rw [scan_cons_some hd, scan_get_other hdef rest _ _ r hr.2]
      refine Map.get_set_ne _ _ _ _ fun e => hr.1 ?_
      rw [hdef _ _ _ _ _ hd, e]
      exact List.mem_singleton_self r
    | none =>
      rw [scan_cons_none hd]
      exact scan_get_other hdef rest _ _ r hr.2

variable {code : List Instr} {pc : Nat} {ins : Instr}

theorem scan_at (hc : code[pc]? = some ins) :
    scan decide none code [] =
      ((scan decide none (code.take pc) []).1 ++
          (scan decide (lastOr none (code.take pc)) (ins :: code.drop (pc + 1)) (substAt decide code pc)).1,
        (scan decide (lastOr none (code.take pc)) (ins :: code.drop (pc + 1)) (substAt decide code pc)).2) := by
  conv => lhs; rw [(take_cons_drop code pc ins hc).1]
  exact scan_append _ _ _ _

theorem scan_take_succ (hc : code[pc]? = some ins) :
    scan decide none (code.take (pc + 1)) [] =
      ((scan decide none (code.take pc) []).1 ++
          (scan decide (lastOr none (code.take pc)) [ins] (substAt decide code pc)).1,
        (scan decide (lastOr none (code.take pc)) [ins] (substAt decide code pc)).2) := by
  rw [(take_cons_drop code pc ins hc).2]
  exact scan_append _ _ _ _

theorem defs_at (hnd : (defs code).Nodup) (hc : code[pc]? = some ins) :
    (∀ s ∈ defs (code.take pc), s ∉ defs (ins :: code.drop (pc + 1))) ∧
      ∀ d, defOf ins = some d → d ∉ defs (code.take pc) ∧ d ∉ defs (code.drop (pc + 1)) := by
  rw [(take_cons_drop code pc ins hc).1, defs_append, List.nodup_append] at hnd
  obtain ⟨_, hn2, hn3⟩ := hnd
  refine ⟨fun s hs hm => hn3 s hs s hm rfl, fun d hd => ?_⟩
  rw [defs_cons, hd] at hn2 hn3
  exact ⟨fun hm => hn3 d hm d List.mem_cons_self rfl, (List.nodup_cons.1 hn2).1⟩

theorem kept_at (hdef : DecideDef decide) (hnd : (defs code).Nodup) (hc : code[pc]? = some ins)
    (hd : decideAt decide code pc ins = none) :
    (pass decide code)[kpos decide code pc]? = some (substInstr (finalSubst decide code) ins) ∧
      kpos decide code (pc + 1) = kpos decide code pc + 1 ∧
      ∀ d, defOf ins = some d → Map.get (finalSubst decide code) d = none := by
  refine ⟨?_, ?_, fun d hdd => ?_⟩
  · -- the kept code is `o1 ++ ins :: o2` with `o1` the kept prefix, and `kpos pc` is the length of `o1`
    rw [pass_def, List.getElem?_map, scan_at hc, scan_cons_none hd, kpos,
      List.getElem?_append_right (Nat.le_refl _), Nat.sub_self]
    rfl
  · rw [kpos, scan_take_succ hc, scan_cons_none hd, List.length_append]
    rfl
  · obtain ⟨hpre, hsuf⟩ := (defs_at hnd hc).2 d hdd
    rw [finalSubst, scan_at hc, scan_cons_none hd, scan_get_other hdef _ _ _ d hsuf]
    exact scan_get_other hdef _ _ _ d hpre

theorem removed_at (hdef : DecideDef decide) (hnd : (defs code).Nodup) (hc : code[pc]? = some ins)
    {d : Nat} {o : Opd} (hd : decideAt decide code pc ins = some (d, o)) :
    kpos decide code (pc + 1) = kpos decide code pc ∧ Map.get (finalSubst decide code) d = some o := by
  constructor
  · rw [kpos, scan_take_succ hc, scan_cons_some hd, List.length_append]
    rfl
  · rw [finalSubst, scan_at hc, scan_cons_some hd,
      scan_get_other hdef _ _ _ d ((defs_at hnd hc).2 d (hdef _ _ _ _ _ hd)).2]
    exact Map.get_set_eq _ _ _

/-- references defined before `pc` have their final image already when the scan reaches `pc` -/
theorem stable_at (hdef : DecideDef decide) (hnd : (defs code).Nodup) (hc : code[pc]? = some ins) :
    ∀ s ∈ defs (code.take pc), Map.get (finalSubst decide code) s = Map.get (substAt decide code pc) s := by
  intro s hs
  rw [finalSubst, scan_at hc]
  exact scan_get_other hdef _ _ _ s ((defs_at hnd hc).1 s hs)

theorem end_at (hc : code[pc]? = none) : (pass decide code)[kpos decide code pc]? = none := by
  rw [kpos, List.take_of_length_le (List.getElem?_eq_none_iff.1 hc), pass_def, List.getElem?_map,
    List.getElem?_eq_none (Nat.le_refl _)]
  rfl

theorem scan_labelPos (hdef : DecideDef decide) (l : Nat) (σ' : Subst) : ∀ (code : List Instr) (prev : Option Instr)
    (σ : Subst) (i : Nat),
    labelPos.go l ((scan decide prev code σ).1.map (substInstr σ')) i =
      (labelPos.go l code 0).map (fun p => (scan decide prev (code.take p) σ).1.length + i)
  | [], _, _, _ => rfl
  | ins :: rest, prev, σ, i => by
    rw [labelPos_go_cons l ins rest 0, labelPos_go_succ]
    cases hd : decide prev ins σ with
    | some p =>
      obtain ⟨d, o⟩ := p
      rw [scan_cons_some hd, scan_labelPos hdef l σ' rest, labelOf_of_defOf (hdef _ _ _ _ _ hd),
        if_neg nofun, Option.map_map]
      congr 1; funext p
      simp only [Function.comp, List.take_succ_cons, scan_cons_some hd]
    | none =>
      rw [scan_cons_none hd, List.map_cons, labelPos_go_cons, labelOf_substInstr]
      split
      · exact congrArg some (Nat.zero_add i).symm
      · rw [scan_labelPos hdef l σ' rest, Option.map_map]
        congr 1; funext p
        simp only [Function.comp, List.take_succ_cons, scan_cons_none hd, List.length_cons]
        omega

theorem pass_labelPos (hdef : DecideDef decide) (code : List Instr) (l : Nat) :
    labelPos (pass decide code) l = (labelPos code l).map (kpos decide code) :=
  scan_labelPos hdef l _ code none [] 0

end

end Opt
end Nsl
