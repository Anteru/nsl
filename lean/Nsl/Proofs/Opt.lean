import Nsl.Model.Opt
import Nsl.Proofs.StepLemmas
import Nsl.Proofs.InstrViews
/-!
# Facts about the optimiser model: what is removed, what is kept, why folding a cast is justified

`scan` is used through `scan_cons_some` / `scan_cons_none` and its two projections, never through its pair-matching
definition; `pass_def` says what `pass` is in these terms.
-/
namespace Nsl

theorem Program.find_map (F : Func → Func) (hF : ∀ f, (F f).name = f.name) (P : Program) (n : String) :
    Program.find { P with funcs := P.funcs.map F } n = (P.find n).map F := by
  simp only [Program.find, List.find?_map]
  congr 2
  funext f
  simp only [Function.comp, hF]

namespace Opt
open VM

theorem find_passProgram (decide : Option Instr → Instr → Subst → Option (Nat × Opd)) (P : Program) (name : String) :
    (passProgram decide P).find name = (P.find name).map (passFn decide) :=
  Program.find_map (passFn decide) (fun _ => rfl) P name

theorem find_optProgram (P : Program) (name : String) : (optProgram P).find name = (P.find name).map optFn :=
  Program.find_map optFn (fun _ => rfl) P name

theorem passFn_code (decide : Option Instr → Instr → Subst → Option (Nat × Opd)) (f : Func) :
    (passFn decide f).code = pass decide f.code := rfl

theorem optFn_code (f : Func) : (optFn f).code = pass lasDecide (pass ccDecide f.code) := rfl

theorem optProgram_eq (P : Program) : optProgram P = passProgram lasDecide (passProgram ccDecide P) := by
  simp only [optProgram, passProgram, List.map_map]
  rfl

def constVal : Opd → Option Val
  | .cInt i => some (.int i)
  | .cFlt f => some (.flt f)
  | .ref _ => none

theorem evalOpd_const {fr : Frame} {o : Opd} {v : Val} (h : constVal o = some v) : evalOpd fr o = .ok v := by
  cases o <;> cases h <;> rfl

/-- Folding a cast of a constant gives exactly the value the VM's `CAST` computes. -/
theorem foldCast_sound {ty : ITy} {o c : Opd} (h : foldCast ty o = some c) :
    ∃ x y, constVal o = some x ∧ constVal c = some y ∧ castExec ty x = .ok y := by
  unfold foldCast at h
  split at h
  -- int → float, float → float, int → int, int → uint: total, and `castScalar` computes the same constant
  iterate 4 (cases h; exact ⟨_, _, rfl, rfl, rfl⟩)
  -- float → int, float → uint: folded only if the floor exists, and then `castScalar` takes the same floor
  iterate 2
    split at h
    · rename_i hf
      cases h
      exact ⟨_, _, rfl, rfl, by simp only [castExec, castScalar, hf]; rfl⟩
    · cases h
  cases h

theorem foldCast_noRefs {ty : ITy} {o c : Opd} (h : foldCast ty o = some c) : WF.opdRefs c = [] := by
  obtain ⟨_, y, _, hy, _⟩ := foldCast_sound h
  cases c with
  | ref n => cases hy
  | cInt i => rfl
  | cFlt f => rfl

/-- An instruction that a pass may remove: a cast or a load. -/
def removable : Instr → Bool
  | .cast _ _ _ => true
  | .load _ _ _ _ => true
  | _ => false

theorem ccDecide_some {prev : Option Instr} {ins : Instr} {σ : Subst} {d : Nat} {o : Opd}
    (h : ccDecide prev ins σ = some (d, o)) : ∃ ty a, ins = .cast d ty a ∧ foldCast ty a = some o := by
  unfold ccDecide at h
  split at h
  · obtain ⟨c, hc, he⟩ := Option.map_eq_some_iff.1 h
    cases he
    exact ⟨_, _, rfl, hc⟩
  · cases h

theorem lasDecide_some {prev : Option Instr} {ins : Instr} {σ : Subst} {d : Nat} {o : Opd}
    (h : lasDecide prev ins σ = some (d, o)) :
    ∃ ty sc var sc' src, ins = .load d ty sc var ∧ prev = some (.store sc' var src) ∧ o = substOpd σ src := by
  unfold lasDecide at h
  split at h
  · split at h
    · rename_i hv
      cases h; cases hv
      exact ⟨_, _, _, _, _, rfl, rfl, rfl⟩
    · cases h
  · cases h

theorem ccDecide_removable : ∀ prev ins σ p, ccDecide prev ins σ = some p → removable ins = true := by
  intro prev ins σ p h
  obtain ⟨ty, a, rfl, _⟩ := ccDecide_some (d := p.1) (o := p.2) h
  rfl

theorem lasDecide_removable : ∀ prev ins σ p, lasDecide prev ins σ = some p → removable ins = true := by
  intro prev ins σ p h
  obtain ⟨ty, sc, var, sc', src, rfl, _, _⟩ := lasDecide_some (d := p.1) (o := p.2) h
  rfl

/-- a pass removes only the instruction that defines the reference it rewires -/
def DecideDef (decide : Option Instr → Instr → Subst → Option (Nat × Opd)) : Prop :=
  ∀ prev ins σ d o, decide prev ins σ = some (d, o) → WF.defOf ins = some d

theorem ccDecide_decideDef : DecideDef ccDecide := by
  intro prev ins σ d o h
  obtain ⟨ty, a, rfl, _⟩ := ccDecide_some h
  rfl

theorem lasDecide_decideDef : DecideDef lasDecide := by
  intro prev ins σ d o h
  obtain ⟨ty, sc, var, sc', src, rfl, _, _⟩ := lasDecide_some h
  rfl

section
variable {decide : Option Instr → Instr → Subst → Option (Nat × Opd)} {prev : Option Instr} {ins : Instr}
  {σ : Subst}

theorem scan_cons_some {d : Nat} {o : Opd} (h : decide prev ins σ = some (d, o)) (rest : List Instr) :
    scan decide prev (ins :: rest) σ = scan decide (some ins) rest (Map.set σ d o) := by
  rw [scan, h]

theorem scan_cons_none (h : decide prev ins σ = none) (rest : List Instr) :
    scan decide prev (ins :: rest) σ =
      (ins :: (scan decide (some ins) rest σ).1, (scan decide (some ins) rest σ).2) := by
  rw [scan, h]

/-- the substitution with which `pass` rewires the kept instructions -/
def finalSubst (decide : Option Instr → Instr → Subst → Option (Nat × Opd)) (code : List Instr) : Subst :=
  (scan decide none code []).2

theorem pass_def (code : List Instr) :
    pass decide code = (scan decide none code []).1.map (substInstr (finalSubst decide code)) := rfl

end

theorem scan_sublist (decide : Option Instr → Instr → Subst → Option (Nat × Opd)) :
    ∀ (code : List Instr) (prev : Option Instr) (σ : Subst), (scan decide prev code σ).1.Sublist code
  | [], _, _ => .slnil
  | ins :: rest, prev, σ => by
    cases hd : decide prev ins σ with
    | some p => rw [scan_cons_some hd]; exact (scan_sublist decide rest _ _).cons _
    | none => rw [scan_cons_none hd]; exact (scan_sublist decide rest _ _).cons_cons _

theorem scan_keeps (decide : Option Instr → Instr → Subst → Option (Nat × Opd))
    (hdec : ∀ prev ins σ p, decide prev ins σ = some p → removable ins = true) :
    ∀ (code : List Instr) (prev : Option Instr) (σ : Subst),
      code.filter (fun i => !removable i) = (scan decide prev code σ).1.filter (fun i => !removable i)
  | [], _, _ => rfl
  | ins :: rest, prev, σ => by
    cases hd : decide prev ins σ with
    | some p =>
      rw [scan_cons_some hd, List.filter_cons, hdec prev ins σ p hd]
      exact scan_keeps decide hdec rest _ _
    | none =>
      rw [scan_cons_none hd, List.filter_cons, List.filter_cons, scan_keeps decide hdec rest (some ins) σ]

theorem removable_substInstr (σ : Subst) (i : Instr) : removable (substInstr σ i) = removable i := by
  cases i <;> first | rfl | (rename_i o; cases o <;> rfl)

/-- Labels, branches, stores, calls, returns … are never removed by a pass: the optimised code has the same
non-removable instructions in the same order, up to the rewiring of operands. -/
theorem pass_keeps (decide : Option Instr → Instr → Subst → Option (Nat × Opd))
    (hdec : ∀ prev ins σ p, decide prev ins σ = some p → removable ins = true) (code : List Instr) :
    ∃ σ, (pass decide code).filter (fun i => !removable i) =
      (code.filter (fun i => !removable i)).map (substInstr σ) := by
  refine ⟨finalSubst decide code, ?_⟩
  rw [pass_def, List.filter_map, scan_keeps decide hdec code none []]
  congr 2
  funext i
  exact congrArg (!·) (removable_substInstr _ i)

end Opt
end Nsl
