import Nsl.Proofs.OptSimBase
/-!
# A pass preserves the side conditions (`blockLocal`, distinct definitions)

so that `optOK` only has to state them for the unoptimised code.  Distinct definitions are immediate: a pass only
removes instructions.  For `blockLocal` one induction over `scan` serves both passes (`scan_blockLocal`): it relates
`seen` of the original block to `seen'` of the optimised block (`seen' ⊆ seen`, references in the image of a seen
reference are in `seen'`); a pass contributes `ImgFromPrev`.
-/
namespace Nsl
namespace Opt
open VM WF

section
variable {decide : Option Instr → Instr → Subst → Option (Nat × Opd)}

theorem pass_defs_nodup (decide : Option Instr → Instr → Subst → Option (Nat × Opd)) {code : List Instr}
    (h : (defs code).Nodup) : (defs (pass decide code)).Nodup := by
  rw [pass_def, defs_map_subst]
  exact List.Nodup.sublist ((scan_sublist decide code none []).filterMap _) h

/-- The operand a removed definition is rewired to mentions only images of references read by the previous
instruction. -/
def ImgFromPrev (decide : Option Instr → Instr → Subst → Option (Nat × Opd)) : Prop :=
  ∀ prev ins σ d o, decide prev ins σ = some (d, o) → ∀ x ∈ opdRefs o,
    ∃ p r, prev = some p ∧ r ∈ usesOf p ∧ x ∈ opdRefs (substOpd σ (.ref r))

theorem scan_blockLocal (hdef : DecideDef decide) (himgp : ImgFromPrev decide) :
    ∀ (code : List Instr) (prev : Option Instr) (σ : Subst) (seen seen' : List Nat),
    (defs code).Nodup → blockLocal seen code = true →
    (∀ r ∈ seen, r ∉ defs code) →
    (∀ r ∈ defs code, Map.get σ r = none) →
    (∀ p, prev = some p → ∀ r ∈ usesOf p, r ∈ seen) →
    (∀ r ∈ seen, ∀ x ∈ opdRefs (substOpd σ (.ref r)), x ∈ seen') →
    (∀ r ∈ seen', r ∈ seen) →
    blockLocal seen' ((scan decide prev code σ).1.map (substInstr (scan decide prev code σ).2)) = true
  | [], _, _, _, _, _, _, _, _, _, _, _ => rfl
  | ins :: rest, prev, σ, seen, seen', hnd, hbl, hfresh, hun, hprev, himg, hsub => by
    obtain ⟨huse, hnew, hrest⟩ := blockLocal_cons.1 hbl
    rw [defs_cons, List.nodup_append] at hnd
    obtain ⟨_, hnd, hdisj⟩ := hnd
    have hfresh' : ∀ r ∈ seenStep seen ins, r ∉ defs rest := by
      intro r hr hm
      cases hl : labelOf ins with
      | some l => rw [seenStep_of_label hl] at hr; cases hr
      | none =>
        rw [seenStep_nonlabel hl, List.mem_append] at hr
        rcases hr with hr | hr
        · exact hdisj r hr r hm rfl
        · exact hfresh r hr (mem_defs_cons_of_mem hm)
    have hprev' : ∀ p, some ins = some p → ∀ r ∈ usesOf p, r ∈ seenStep seen ins := by
      intro p hp r hr
      cases hp
      rw [seenStep_nonlabel (labelOf_of_uses hr)]
      exact List.mem_append_right _ (huse r hr)
    cases hd : decide prev ins σ with
    | some p =>
      -- removed: `d` joins `seen` only; its image `o` stays within `seen'`
      obtain ⟨d, o⟩ := p
      have hdd := hdef _ _ _ _ _ hd
      have hseen : seenStep seen ins = d :: seen := by rw [seenStep_nonlabel (labelOf_of_defOf hdd), hdd]; rfl
      rw [scan_cons_some hd]
      rw [hseen] at hrest hfresh' hprev'
      refine scan_blockLocal hdef himgp rest _ _ (d :: seen) seen' hnd hrest hfresh' ?_ hprev' ?_ ?_
      · intro r hr
        rw [Map.get_set_ne _ _ _ _ (fun (e : d = r) => hfresh' d List.mem_cons_self (e ▸ hr))]
        exact hun r (mem_defs_cons_of_mem hr)
      · intro r hr x hx
        rcases List.mem_cons.1 hr with rfl | hr
        · rw [substOpd_ref_some (Map.get_set_eq _ _ _)] at hx
          obtain ⟨p, s, hp, hs, hxs⟩ := himgp _ _ _ _ _ hd x hx
          exact himg s (hprev p hp s hs) x hxs
        · rw [substOpd, Map.get_set_ne _ _ _ _ (fun (e : d = r) => hnew d hdd (e ▸ hr))] at hx
          exact himg r hr x hx
      · exact fun r hr => List.mem_cons_of_mem _ (hsub r hr)
    | none =>
      -- kept: the rewired instruction reads images of what `ins` reads, and defines what `ins` defines
      rw [scan_cons_none hd, List.map_cons, blockLocal_cons]
      have hstable : ∀ r ∈ seen, Map.get (scan decide (some ins) rest σ).2 r = Map.get σ r :=
        fun r hr => scan_get_other hdef rest _ _ r fun hm => hfresh r hr (mem_defs_cons_of_mem hm)
      refine ⟨fun x hx => ?_, fun d hdd hm => ?_, ?_⟩
      · obtain ⟨r, hr1, hr2⟩ := uses_subst _ hx
        rw [substOpd, hstable r (huse r hr1)] at hr2
        exact himg r (huse r hr1) x hr2
      · rw [defOf_substInstr] at hdd
        exact hnew d hdd (hsub d hm)
      · have hun' : ∀ r ∈ defs rest, Map.get σ r = none := fun r hr => hun r (mem_defs_cons_of_mem hr)
        cases hl : labelOf ins with
        | some l =>
          rw [labelOf_eq_some hl] at hrest hfresh' hprev' ⊢
          exact scan_blockLocal hdef himgp rest _ _ [] [] hnd hrest hfresh' hun' hprev'
            (fun _ h => nomatch h) (fun _ h => nomatch h)
        | none =>
          rw [seenStep_nonlabel (by rw [labelOf_substInstr]; exact hl), defOf_substInstr]
          rw [seenStep_nonlabel hl] at hrest hfresh' hprev'
          refine scan_blockLocal hdef himgp rest _ _ _ _ hnd hrest hfresh' hun' hprev' ?_ ?_
          · intro r hr x hx
            rcases List.mem_append.1 hr with hr | hr
            · rw [substOpd_ref_none (hun r (by rw [defs_cons]; exact List.mem_append_left _ hr))] at hx
              cases List.mem_singleton.1 hx
              exact List.mem_append_left _ hr
            · exact List.mem_append_right _ (himg r hr x hx)
          · intro r hr
            rcases List.mem_append.1 hr with hr | hr
            · exact List.mem_append_left _ hr
            · exact List.mem_append_right _ (hsub r hr)

theorem pass_blockLocal (hdef : DecideDef decide) (himgp : ImgFromPrev decide) {code : List Instr}
    (hbl : blockLocal [] code = true) (hnd : (defs code).Nodup) : blockLocal [] (pass decide code) = true :=
  scan_blockLocal hdef himgp code none [] [] [] hnd hbl (fun _ h => nomatch h) (fun _ _ => rfl)
    (fun _ h => nomatch h) (fun _ h => nomatch h) (fun _ h => nomatch h)

end

theorem ccDecide_img : ImgFromPrev ccDecide := by
  intro prev ins σ d o h x hx
  obtain ⟨ty, a, _, hf⟩ := ccDecide_some h
  rw [foldCast_noRefs hf] at hx
  cases hx

theorem lasDecide_img : ImgFromPrev lasDecide := by
  intro prev ins σ d o h x hx
  obtain ⟨ty, sc, var, sc', src, _, rfl, rfl⟩ := lasDecide_some h
  cases src with
  | ref s => exact ⟨_, s, rfl, List.mem_singleton_self s, hx⟩
  | cInt i => cases hx
  | cFlt f => cases hx

theorem optCode_blockLocal {code : List Instr} (hbl : blockLocal [] code = true) (hnd : (defs code).Nodup) :
    blockLocal [] (optCode code) = true :=
  pass_blockLocal lasDecide_decideDef lasDecide_img (pass_blockLocal ccDecide_decideDef ccDecide_img hbl hnd)
    (pass_defs_nodup ccDecide hnd)

theorem optCode_defs_nodup {code : List Instr} (hnd : (defs code).Nodup) : (defs (optCode code)).Nodup :=
  pass_defs_nodup lasDecide (pass_defs_nodup ccDecide hnd)

end Opt
end Nsl
